import GbVerif.Proofs.X86SimAlu
/-
C01, the data side: SCF (`and al, 0x9f ; or al, 0x10`), CCF (`and al, 0x9f ; xor al, 0x10`), CPL (`not ah ; or al, 0x60`).
-/
namespace GbVerif.X86
open GbVerif.JitCycles GbVerif.Interp
variable {β : Type}

theorem fScf_eq (f : Nat) (hf : f < 256) : bitop .or (bitop .and f 159) 16 = ((f &&& ((0x70 ^^^ 0xff) % 256)) ||| 0x10) :=
  of_decide_eq_true (Enum.forall_lt_of_allRange
    (fun f => decide (bitop .or (bitop .and f 159) 16 = ((f &&& ((0x70 ^^^ 0xff) % 256)) ||| 0x10))) 8 (by decide +kernel) f hf)

theorem fCcf_eq (f : Nat) (hf : f < 256) : bitop .xor (bitop .and f 159) 16 = ((f &&& ((0x60 ^^^ 0xff) % 256)) ^^^ 0x10) :=
  of_decide_eq_true (Enum.forall_lt_of_allRange
    (fun f => decide (bitop .xor (bitop .and f 159) 16 = ((f &&& ((0x60 ^^^ 0xff) % 256)) ^^^ 0x10))) 8 (by decide +kernel) f hf)

theorem table_flagops (b1 b2 : Nat) :
    (decodeCode (Gen.emitOp 0x37) = some ([(0, Instr.alu8i AluOp.and (R8.lo 0) 159), (2, Instr.alu8i AluOp.or (R8.lo 0) 16)] ++ [(4, addIp 1), (8, addCy 1)]) ∧
      bytesOf (Gen.emitOp 0x37) = 12 ∧ Gen.decode 0x37 b1 b2 = (.SetCarryFlag, 1, 4)) ∧
    (decodeCode (Gen.emitOp 0x3f) = some ([(0, Instr.alu8i AluOp.and (R8.lo 0) 159), (2, Instr.alu8i AluOp.xor (R8.lo 0) 16)] ++ [(4, addIp 1), (8, addCy 1)]) ∧
      bytesOf (Gen.emitOp 0x3f) = 12 ∧ Gen.decode 0x3f b1 b2 = (.ComplementCarryFlag, 1, 4)) :=
  ⟨⟨by decide +kernel, by decide +kernel, rfl⟩, ⟨by decide +kernel, by decide +kernel, rfl⟩⟩

theorem scf_body (B : BusOps β) (g : Regs) (st0 s1 : St β) (hs : Sim g st0)
    (hex : execList B 4 [(0, Instr.alu8i AluOp.and (R8.lo 0) 159), (2, Instr.alu8i AluOp.or (R8.lo 0) 16)] st0 = .ok s1) :
    Sim (orF (applyMask g 0x70) 0x10) s1 ∧ Untouched st0 s1 :=
  alTail_sim B (alTail_cons B (.inl rfl) (by decide) (alTail_cons B (.inr (.inl rfl)) (by decide) (alTail_nil B 4))) hs
    ((sameButAf_applyMask g _).trans (sameButAf_orF _ _))
    (orF_pack _ _ _ 0x10 (Nat.lt_of_le_of_lt Nat.and_le_left (Nat.mod_lt _ (by decide))) (by decide)
      (applyMask_pack g _ _ 0x70 (getReg_lt g .A) (Nat.mod_lt _ (by decide)) (af_split g)))
    (fScf_eq _ (Nat.mod_lt _ (by decide))) hex

/-- **SCF**: all states -/
theorem sim_scf (b1 b2 : Nat) : Simulates 0x37 b1 b2 :=
  Simulates.intro (table_flagops b1 b2).1 rfl (by decide) (by decide) rfl fun B g _ _ hs _ _ hex =>
    ⟨_, fun _ => rfl, scf_body B g _ _ hs hex⟩

theorem ccf_body (B : BusOps β) (g : Regs) (st0 s1 : St β) (hs : Sim g st0)
    (hex : execList B 4 [(0, Instr.alu8i AluOp.and (R8.lo 0) 159), (2, Instr.alu8i AluOp.xor (R8.lo 0) 16)] st0 = .ok s1) :
    Sim { (applyMask g 0x60) with af := (applyMask g 0x60).af ^^^ 0x10 } s1 ∧ Untouched st0 s1 := by
  have c0 : g.af % 256 &&& ((0x60 ^^^ 0xff) % 256) < 256 := Nat.lt_of_le_of_lt Nat.and_le_left (Nat.mod_lt _ (by decide))
  have e := pack_xor (getReg g .A) (g.af % 256 &&& ((0x60 ^^^ 0xff) % 256)) 0 0x10 c0 (by decide)
  simp only [Nat.zero_mul, Nat.zero_add, Nat.xor_zero] at e
  exact alTail_sim B (alTail_cons B (.inl rfl) (by decide) (alTail_cons B (.inr (.inr rfl)) (by decide) (alTail_nil B 4))) hs
    ⟨rfl, rfl, rfl, rfl, rfl, rfl⟩
    (by rw [← e, ← applyMask_pack g _ _ 0x60 (getReg_lt g .A) (Nat.mod_lt _ (by decide)) (af_split g)])
    (fCcf_eq _ (Nat.mod_lt _ (by decide))) hex

/-- **CCF**: all states -/
theorem sim_ccf (b1 b2 : Nat) : Simulates 0x3f b1 b2 :=
  Simulates.intro (table_flagops b1 b2).2 rfl (by decide) (by decide) rfl fun B g _ _ hs _ _ hex =>
    ⟨_, fun _ => rfl, ccf_body B g _ _ hs hex⟩

theorem xor_ff (a : Nat) (ha : a < 256) : u8 (a ^^^ 0xff) = 255 - a :=
  of_decide_eq_true (Enum.forall_lt_of_allRange (fun a => decide (u8 (a ^^^ 0xff) = 255 - a)) 8 (by decide +kernel) a ha)

theorem table_cpl (b1 b2 : Nat) :
    decodeCode (Gen.emitOp 0x2f) = some ([(0, Instr.not8 (R8.hi 0)), (2, Instr.alu8i AluOp.or (R8.lo 0) 96)] ++ [(4, addIp 1), (8, addCy 1)]) ∧
    bytesOf (Gen.emitOp 0x2f) = 12 ∧ Gen.decode 0x2f b1 b2 = (.ComplementA, 1, 4) := ⟨by decide +kernel, by decide +kernel, rfl⟩

theorem cpl_body (B : BusOps β) (g : Regs) (st0 s2 : St β) (hs : Sim g st0)
    (hex : execList B 4 [(0, Instr.not8 (R8.hi 0)), (2, Instr.alu8i AluOp.or (R8.lo 0) 96)] st0 = .ok s2) :
    Sim (orF (orF (setReg g .A (u8 (getReg g .A ^^^ 0xff))) 0x40) 0x20) s2 ∧ Untouched st0 s2 := by
  obtain ⟨s1, ha, hex⟩ := execList_cons B _ _ _ _ _ _ hex
  have hA := getReg_lt g .A
  have hu := untouched_step B ha rfl (by decide)
  rw [show step B st0 (.not8 (.hi 0)) _ = .ok (set8 ({ st0 with pc := _ } : St β) (.hi 0) (255 - get8 st0 (.hi 0))) from rfl,
    show get8 st0 (.hi 0) = getReg g .A from get8_sim hs .A] at ha
  cases Except.ok.inj ha
  have ⟨q1, q2⟩ := alTail_sim B (alTail_cons B (.inr (.inl rfl)) (by decide) (alTail_nil B 4))
    (g' := orF (orF (setReg g .A (u8 (getReg g .A ^^^ 0xff))) 0x40) 0x20) (set8_sim (sim_pc hs _) .A (255 - getReg g .A) (by omega))
    ⟨rfl, rfl, rfl, rfl, rfl, rfl⟩
    (by rw [getReg_setReg_self _ _ _ (by omega), ← xor_ff _ hA]
        exact orF_pack _ _ _ 0x20 (Nat.or_lt_two_pow (n := 8) (Nat.mod_lt _ (by decide)) (by decide)) (by decide)
          (orF_pack _ _ _ 0x40 (Nat.mod_lt _ (by decide)) (by decide) (setHi_eq _ _)))
    (by rw [af_setReg_lo]; exact (Nat.or_assoc _ 0x40 0x20).symm) hex
  exact ⟨q1, hu.trans q2⟩

/-- **CPL**: all states -/
theorem sim_cpl (b1 b2 : Nat) : Simulates 0x2f b1 b2 :=
  Simulates.intro (table_cpl b1 b2) rfl (by decide) (by decide) rfl fun B g _ _ hs _ _ hex =>
    ⟨_, fun _ => rfl, cpl_body B g _ _ hs hex⟩

end GbVerif.X86
