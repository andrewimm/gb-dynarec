import GbVerif.Proofs.PpuObj
/-!
C15 stage (ii), second half: the selection loop of `find_current_line_sprites` returns the
spec's ≤ 10 objects in OAM order, each with the row the spec shows, and the swept line cache holds
the spec's winning opaque object pixel.
-/
namespace GbVerif.PpuSel
open GbVerif.Ppu GbVerif.FrameSpec GbVerif.PpuBits GbVerif.PpuObj GbVerif.NatBits

def IsBytes (a : Array Nat) : Prop := ∀ i, mem a i < 256

structure RegsOk (r : Ppu.Regs) : Prop where
  lcdc : r.lcdc < 256
  scx : r.scx < 256
  scy : r.scy < 256
  wx : r.wx < 256
  wy : r.wy < 256
  bgp : r.bgp < 256
  obp0 : r.obp0 < 256
  obp1 : r.obp1 < 256

theorem isBytes_replicate (n v : Nat) (hv : v < 256) : IsBytes (Array.replicate n v) := by
  intro i; rw [mem_replicate]; split <;> omega

theorem cfg_objectEnabled (r : Ppu.Regs) : (Cfg.ofRegs r).objectEnabled = lcdcBit (toSpec r) 1 := mask_set r.lcdc 1
theorem cfg_doubleHeight (r : Ppu.Regs) : (Cfg.ofRegs r).objectDoubleHeight = lcdcBit (toSpec r) 2 := mask_set r.lcdc 2
theorem cfg_windowEnabled (r : Ppu.Regs) : (Cfg.ofRegs r).windowEnabled = lcdcBit (toSpec r) 5 := mask_set r.lcdc 5

theorem mapOffset_eq (v k : Nat) : (if v &&& 2 ^ k == 0 then 0x1800 else 0x1c00) = mapBase (v.testBit k) := by
  rw [mask_clear]; cases v.testBit k <;> rfl

theorem cfg_bgMap (r : Ppu.Regs) : (Cfg.ofRegs r).bgMapOffset = mapBase (lcdcBit (toSpec r) 3) := mapOffset_eq r.lcdc 3
theorem cfg_windowMap (r : Ppu.Regs) : (Cfg.ofRegs r).windowMapOffset = mapBase (lcdcBit (toSpec r) 6) :=
  mapOffset_eq r.lcdc 6

/-- height used by the selection loop -/
abbrev heightM (c : Cfg) : Nat := if c.objectDoubleHeight then 16 else 8

theorem heightM_le (c : Cfg) : heightM c ≤ 16 := by
  unfold heightM; split <;> decide

/-- the loop's "covers the line" test for OAM entry `i` -/
def onLineM (c : Cfg) (oam : Array Nat) (ly i : Nat) : Bool :=
  !decide (ly + 16 < mem oam (4 * i) ∨ ly + 16 - mem oam (4 * i) ≥ heightM c)

/-- the `ObjectAttributes` the loop builds for OAM entry `i` -/
def mkObj (c : Cfg) (vram oam : Array Nat) (ly i : Nat) : Obj :=
  let attr := mem oam (4 * i + 3)
  let line := ly + 16 - mem oam (4 * i)
  let line := if attr &&& 0x40 != 0 then heightM c - line - 1 else line
  let tile := if c.objectDoubleHeight then mem oam (4 * i + 2) &&& 0xfe else mem oam (4 * i + 2)
  let addr := (tile <<< 4) + line * 2
  let lo := mem vram addr
  let hi := mem vram (addr + 1)
  let flipX := attr &&& 0x20 != 0
  { hasPriority := attr &&& 0x80 == 0, palette := (attr &&& 0x10) >>> 4,
    rowData := interleave (if flipX then flipByte lo else lo) (if flipX then flipByte hi else hi),
    xCoord := mem oam (4 * i + 1) }

theorem getObjectRow_ok (vram : Array Nat) (tile row : Nat) (fx : Bool) (h : (tile <<< 4) + row * 2 + 1 < vram.size) :
    getObjectRow vram tile row fx =
      .ok (interleave
        (if fx then flipByte (mem vram ((tile <<< 4) + row * 2)) else mem vram ((tile <<< 4) + row * 2))
        (if fx then flipByte (mem vram ((tile <<< 4) + row * 2 + 1)) else mem vram ((tile <<< 4) + row * 2 + 1))) := by
  rw [getObjectRow, rd_ok _ _ (Nat.lt_of_succ_lt h), rd_ok _ _ h]; rfl

theorem objRow_inRange (t l : Nat) (ht : t < 256) (hl : l < 16) : (t <<< 4) + l * 2 + 1 < 8192 := by
  rw [Nat.shiftLeft_eq]; omega

/-- one trip of the selection loop while there is room for another object -/
theorem selectLoop_step (c : Cfg) {vram oam : Array Nat} (ly : Nat) (hv : vram.size = 8192) (ho : oam.size = 160)
    (hob : IsBytes oam) (f k : Nat) (found : List Obj) (hk : k < 40) (hf : found.length < 10) :
    selectLoop c vram oam ly (f + 1) (4 * k) found =
      selectLoop c vram oam ly f (4 * (k + 1))
        (if onLineM c oam ly k then found ++ [mkObj c vram oam ly k] else found) := by
  have ⟨h0, h3⟩ : 4 * k < 160 ∧ 4 * k + 3 < oam.size := by omega
  rw [selectLoop, if_pos ⟨h0, hf⟩, rd_ok oam _ (Nat.lt_of_add_right_lt h3), rd_ok oam _ (Nat.lt_of_succ_lt (Nat.lt_of_succ_lt h3)),
    rd_ok oam _ (Nat.lt_of_succ_lt h3), rd_ok oam _ h3, Nat.mul_succ]
  simp only [ok_bind]
  by_cases hc : ly + 16 < mem oam (4 * k) ∨ ly + 16 - mem oam (4 * k) ≥ heightM c
  · rw [if_pos hc, onLineM, decide_eq_true hc]; rfl
  · rw [if_neg hc, onLineM, decide_eq_false hc, getObjectRow_ok]
    · rfl
    · have ht : (if c.objectDoubleHeight then mem oam (4 * k + 2) &&& 0xfe else mem oam (4 * k + 2)) < 256 := by
        split
        · exact Nat.lt_of_le_of_lt Nat.and_le_left (hob _)
        · exact hob _
      have hl : (if mem oam (4 * k + 3) &&& 0x40 != 0 then heightM c - (ly + 16 - mem oam (4 * k)) - 1
          else ly + 16 - mem oam (4 * k)) < 16 := by
        have := heightM_le c
        split <;> omega
      exact hv ▸ objRow_inRange _ _ ht hl

/-- the loop keeps the first ten OAM entries that cover the line -/
theorem selectLoop_spec (c : Cfg) {vram oam : Array Nat} (ly : Nat) (hv : vram.size = 8192) (ho : oam.size = 160)
    (hob : IsBytes oam) :
    ∀ (fuel k : Nat) (found : List Obj), k + fuel = 40 → found.length ≤ 10 →
      selectLoop c vram oam ly fuel (4 * k) found =
        .ok (found ++ (((List.range' k fuel).filter (onLineM c oam ly)).take (10 - found.length)).map
          (mkObj c vram oam ly)) := by
  intro fuel
  induction fuel with
  | zero => intro k found _ _; rw [selectLoop, List.range'_zero, List.filter_nil, List.take_nil, List.map_nil, List.append_nil]; rfl
  | succ f ih =>
    intro k found hk hf
    have hk1 : k + 1 + f = 40 := by omega
    by_cases hb : found.length < 10
    · rw [selectLoop_step c ly hv ho hob f k found (by omega) hb, List.range'_succ, List.filter_cons]
      cases onLineM c oam ly k
      · rw [if_neg Bool.false_ne_true, if_neg Bool.false_ne_true]
        exact ih (k + 1) found hk1 hf
      · rw [if_pos rfl, if_pos rfl, ih (k + 1) _ hk1 (by rw [List.length_append]; exact hb), List.length_append,
          List.append_assoc, List.take_cons (Nat.sub_pos_of_lt hb), List.map_cons, Nat.sub_add_eq]
        rfl
    · rw [selectLoop, if_neg fun h => hb h.2, Nat.sub_eq_zero_of_le (Nat.le_of_not_lt hb), List.take_zero, List.map_nil,
        List.append_nil]
      rfl

theorem tile_or_one : ∀ t, t < 256 → t ||| 1 = (t &&& 0xfe) + 1 := by decide +kernel

theorem heightM_eq (r : Ppu.Regs) : heightM (Cfg.ofRegs r) = objHeight (toSpec r) := by
  unfold heightM objHeight; rw [cfg_doubleHeight r]

theorem onLine_eq (r : Ppu.Regs) (oam : Array Nat) (ly i : Nat) :
    onLineM (Cfg.ofRegs r) oam ly i = objOnLine (toSpec r) (mem oam) ly i := by
  rw [onLineM, objOnLine, objY, heightM_eq r, ← Bool.decide_and, ← decide_not]
  exact decide_eq_decide.mpr (by omega)

theorem selected_eq (r : Ppu.Regs) (oam : Array Nat) (ly : Nat) :
    ((List.range' 0 40).filter (onLineM (Cfg.ofRegs r) oam ly)).take 10 = selected (toSpec r) (mem oam) ly := by
  rw [selected, List.range_eq_range']
  congr 2
  funext i
  exact onLine_eq r oam ly i

theorem selected_pairwise (r : FrameSpec.Regs) (oam : Mem) (ly : Nat) :
    (selected r oam ly).Pairwise (· < ·) := by
  unfold selected
  rw [List.range_eq_range']
  exact (List.Pairwise.filter _ (List.pairwise_lt_range' 1)).take

theorem selected_onLine (r : FrameSpec.Regs) (oam : Mem) (ly i : Nat) (hi : i ∈ selected r oam ly) :
    objOnLine r oam ly i = true := by
  unfold selected at hi
  exact (List.mem_filter.mp (List.mem_of_mem_take hi)).2

theorem tileRowColour_eq (vram : Mem) (a k : Nat) : tileRowColour vram a k = rowColour (vram a) (vram (a + 1)) k := rfl

/-- column `k` of a fetched object row, with or without X flip -/
theorem objRow_colour (vram : Array Nat) (hvb : IsBytes vram) (addr k : Nat) (fx : Bool) (hk : k < 8) :
    shiftedOut (interleave (if fx then flipByte (mem vram addr) else mem vram addr)
        (if fx then flipByte (mem vram (addr + 1)) else mem vram (addr + 1))) k =
      tileRowColour (mem vram) addr (if fx then 7 - k else k) := by
  cases fx
  · exact shiftedOut_interleave _ _ k (hvb _) (hvb _) hk
  · rw [if_pos rfl, if_pos rfl, if_pos rfl,
      shiftedOut_interleave _ _ k (flip_eq _ (hvb _)).2.1 (flip_eq _ (hvb _)).2.1 hk]
    exact rowColour_flip _ _ k (hvb _) (hvb _) hk

/-- the address of row `row` of an object: an 8×16 object takes its top half from tile `t & 0xFE`, its bottom half
from `t | 1`, which is the next tile -/
theorem objRow_addr (t row : Nat) (dbl : Bool) (ht : t < 256) (hrow : row < (if dbl then 16 else 8)) :
    ((if dbl then t &&& 0xfe else t) <<< 4) + row * 2 =
      (if (if dbl then 16 else 8) = 16 then (if row < 8 then t &&& 0xfe else t ||| 1) else t) * 16 + 2 * (row % 8) := by
  rw [Nat.shiftLeft_eq]
  cases dbl
  · rw [if_neg Bool.false_ne_true, if_neg Bool.false_ne_true, if_neg (by decide)]
    rw [if_neg Bool.false_ne_true] at hrow
    omega
  · rw [if_pos rfl, if_pos rfl, if_pos rfl]
    split
    · omega
    · rw [tile_or_one t ht]; rw [if_pos rfl] at hrow; omega

/-- the row fetched by the loop shows, at cache cell `x + 8`, the colour the reference gives object
`i` at screen column `x` -/
theorem pixAt_mkObj {r : Ppu.Regs} {vram oam : Array Nat} (hvb : IsBytes vram) (hob : IsBytes oam)
    {ly i : Nat} (x : Nat) (hon : objOnLine (toSpec r) (mem oam) ly i = true) :
    pixAt (mkObj (Cfg.ofRegs r) vram oam ly i) (x + 8) = objColour (toSpec r) (mem vram) (mem oam) i x ly := by
  unfold pixAt objColour
  rw [show (mkObj (Cfg.ofRegs r) vram oam ly i).xCoord = objX (mem oam) i from rfl]
  by_cases hcov : objX (mem oam) i ≤ x + 8 ∧ x + 8 < objX (mem oam) i + 8
  · rw [if_pos hcov, if_pos hcov]
    rw [objOnLine, objY, Bool.and_eq_true, decide_eq_true_eq, decide_eq_true_eq] at hon
    -- the row of the object, as the reference numbers it
    have hrow : (if (mem oam (4 * i + 3)).testBit 6 then objHeight (toSpec r) - 1 - (ly + 16 - mem oam (4 * i))
        else ly + 16 - mem oam (4 * i)) < if lcdcBit (toSpec r) 2 then 16 else 8 := by
      show _ < objHeight (toSpec r)
      split <;> omega
    simp only [mkObj, heightM_eq r, cfg_doubleHeight r, mask_ne _ 6, mask_ne _ 5, Nat.sub_right_comm _ _ 1]
    rw [objRow_colour vram hvb _ _ _ (by omega), objRow_addr _ _ _ (hob _) hrow]
    rfl
  · rw [if_neg hcov, if_neg hcov]

/-- a line-cache byte: present, priority = not BG-over-OBJ (`b7`), palette (`b4`), colour -/
def encByte (b7 b4 : Bool) (col : Nat) : Nat := 0x80 + (if b7 then 0 else 0x40) + (if b4 then 4 else 0) + col

/-- the line-cache encoding of object `i`'s pixel at (x, ly): present, priority = not BG-over-OBJ,
palette, colour -/
def specByte (r : FrameSpec.Regs) (vram oam : Mem) (i x ly : Nat) : Nat :=
  0x80 + (if (objAttr oam i).testBit 7 then 0 else 0x40) + (if (objAttr oam i).testBit 4 then 4 else 0) +
    objColour r vram oam i x ly

/-- the reference's winning opaque object pixel at (x, ly) in the line-cache encoding (0: none) -/
def cacheByteSpec (r : FrameSpec.Regs) (vram oam : Mem) (x ly : Nat) : Nat :=
  match (if lcdcBit r 1 then winnerOf r vram oam (selected r oam ly) x ly else none) with
  | none => 0
  | some i => specByte r vram oam i x ly

theorem byte_enc : ∀ b7 b4 : Bool, ∀ col, col < 4 →
    0x80 ||| (if (!b7) = true then 0x40 else 0) ||| (((if b4 then 1 else 0) <<< 2) % 256) ||| col = encByte b7 b4 col := by
  decide

theorem tileRowColour_lt (vram : Mem) (a k : Nat) : tileRowColour vram a k < 4 := by
  unfold tileRowColour
  have := bit_lt (vram a) (7 - k); have := bit_lt (vram (a + 1)) (7 - k); omega

theorem objColour_lt (r : FrameSpec.Regs) (vram oam : Mem) (i x ly : Nat) : objColour r vram oam i x ly < 4 := by
  unfold objColour
  simp only []
  by_cases hc : objX oam i ≤ x + 8 ∧ x + 8 < objX oam i + 8
  · rw [if_pos hc]; exact tileRowColour_lt _ _ _
  · rw [if_neg hc]; decide

theorem objByte_mkObj {r : Ppu.Regs} {vram oam : Array Nat} (hvb : IsBytes vram) (hob : IsBytes oam)
    {ly i : Nat} (x : Nat) (hon : objOnLine (toSpec r) (mem oam) ly i = true) :
    objByte (mkObj (Cfg.ofRegs r) vram oam ly i) (x + 8) = specByte (toSpec r) (mem vram) (mem oam) i x ly := by
  unfold objByte specByte
  rw [pixAt_mkObj hvb hob x hon]
  show 0x80 ||| (if (mem oam (4 * i + 3) &&& 0x80 == 0) = true then 0x40 else 0) |||
    ((((mem oam (4 * i + 3) &&& 0x10) >>> 4) <<< 2) % 256) ||| _ = _
  rw [mask_clear _ 7, and_two_pow _ 4, apply_ite (· >>> 4)]
  exact byte_enc _ _ _ (objColour_lt _ _ _ _ _ _)

/-- on an increasing candidate list the reference's winner ("beats every opaque candidate") is the first of the
opaque candidates with the least X; `p` stands for "opaque at (x, ly)" -/
theorem winner_find (r : FrameSpec.Regs) (vram oam : Mem) (sel : List Nat) (x ly : Nat)
    (hsorted : sel.Pairwise (· < ·)) (p : Nat → Bool) (hp : ∀ i ∈ sel, p i = (objColour r vram oam i x ly != 0))
    (X : Nat → Nat) (hX : ∀ i, X i = objX oam i) :
    sel.find? (fun i => p i && sel.all fun j => !p j || decide (X i ≤ X j)) = winnerOf r vram oam sel x ly := by
  obtain rfl : X = objX oam := funext hX
  unfold winnerOf
  have hc : ∀ j ∈ sel, (objColour r vram oam j x ly == 0) = !p j := fun j hj => by rw [hp j hj, bne, Bool.not_not]
  have h12 : ∀ i ∈ sel, (objColour r vram oam i x ly != 0 &&
      sel.all fun j => objColour r vram oam j x ly == 0 || beats oam i j) = true →
      (p i && sel.all fun j => !p j || decide (objX oam i ≤ objX oam j)) = true := by
    intro i hi h
    rw [Bool.and_eq_true, List.all_eq_true] at h ⊢
    refine ⟨(hp i hi).trans h.1, fun j hj => ?_⟩
    have := h.2 j hj
    rw [hc j hj, beats] at this
    cases hpj : p j
    · rfl
    · simp only [hpj, Bool.not_true, Bool.false_or, Bool.or_eq_true, Bool.and_eq_true, decide_eq_true_eq] at this ⊢
      omega
  cases hf : sel.find? (fun i => p i && sel.all fun j => !p j || decide (objX oam i ≤ objX oam j)) with
  | none => exact (List.find?_eq_none.mpr fun i hi h => List.find?_eq_none.mp hf i hi (h12 i hi h)).symm
  | some i =>
    obtain ⟨hq, as, bs, e, hb⟩ := List.find?_eq_some_iff_append.mp hf
    have hmem : ∀ j, j ∈ as ∨ j ∈ i :: bs → j ∈ sel := fun j hj => e ▸ List.mem_append.mpr hj
    refine (List.find?_eq_some_iff_append.mpr ⟨?_, as, bs, e, fun a ha => ?_⟩).symm
    · rw [Bool.and_eq_true, List.all_eq_true] at hq ⊢
      refine ⟨(hp i (hmem i (Or.inr List.mem_cons_self))).symm.trans hq.1, fun j hj => ?_⟩
      have hij := hq.2 j hj
      rw [hc j hj, beats]
      cases hpj : p j
      · rfl
      · rw [hpj] at hij
        simp only [Bool.not_true, Bool.false_or, decide_eq_true_eq] at hij
        have : objX oam i = objX oam j → i ≤ j := by
          intro hx
          rcases List.mem_append.mp (e ▸ hj) with hja | hjb
          · -- `j` would have been found before `i`
            have := hb j hja
            rw [Bool.not_eq_true', Bool.and_eq_false_iff, hpj, List.all_eq_false] at this
            obtain ⟨k, hk, hjk⟩ := this.resolve_left Bool.noConfusion
            have := hq.2 k hk
            rw [Bool.or_eq_true, Bool.not_eq_true', decide_eq_true_eq] at this hjk
            exact absurd (Or.inr (hx ▸ this.resolve_left fun h => hjk (Or.inl h))) hjk
          · rcases List.mem_cons.mp hjb with rfl | hjb
            · exact Nat.le_refl _
            · exact Nat.le_of_lt (List.rel_of_pairwise_cons (List.pairwise_append.mp (e ▸ hsorted)).2.1 hjb)
        simp only [Bool.not_true, Bool.false_or, Bool.or_eq_true, Bool.and_eq_true, decide_eq_true_eq]
        omega
    · rw [Bool.not_eq_true']
      exact Bool.eq_false_iff.mpr fun h => by
        have := hb a ha
        rw [h12 a (hmem a (Or.inl ha)) h] at this
        cases this

theorem findSprites_spec (r : Ppu.Regs) {vram oam : Array Nat} (hv : vram.size = 8192)
    (ho : oam.size = 160) (hvb : IsBytes vram) (hob : IsBytes oam) (ly : Nat) :
    ∃ cache, findCurrentLineSprites (Cfg.ofRegs r) vram oam ly = .ok cache ∧ cache.size = 176 ∧
      ∀ x, x < 160 → mem cache (x + 8) = cacheByteSpec (toSpec r) (mem vram) (mem oam) x ly := by
  unfold findCurrentLineSprites cacheByteSpec
  rw [← cfg_objectEnabled r]
  cases (Cfg.ofRegs r).objectEnabled
  · -- objects disabled: the cache stays clear
    exact ⟨_, rfl, Array.size_replicate, fun x _ => mem_replicate_zero _ _⟩
  · have hsel : selectLoop (Cfg.ofRegs r) vram oam ly 40 0 [] =
        .ok ((((List.range' 0 40).filter (onLineM (Cfg.ofRegs r) oam ly)).take 10).map (mkObj (Cfg.ofRegs r) vram oam ly)) :=
      selectLoop_spec (Cfg.ofRegs r) ly hv ho hob 40 0 [] rfl (Nat.zero_le _)
    rw [selected_eq r oam ly] at hsel
    simp only [Bool.not_true, Bool.false_eq_true, if_false, if_true, bind, Except.bind, hsel]
    have hsorted := selected_pairwise (toSpec r) (mem oam) ly
    have hon := selected_onLine (toSpec r) (mem oam) ly
    generalize selected (toSpec r) (mem oam) ly = sel at hsorted hon
    obtain ⟨cache, h1, h2, h3⟩ := sweep_winner (sel.map (mkObj (Cfg.ofRegs r) vram oam ly))
      fun o ho => by obtain ⟨i, _, rfl⟩ := List.mem_map.mp ho; exact interleave_lt' _ _
    refine ⟨cache, ?_, h2, fun x hx => ?_⟩
    · -- without objects the sweep ends at once: the `total == 0` shortcut returns what it would
      split
      · next h0 => rw [eq_of_beq h0] at h1; exact h1
      · exact h1
    · rw [h3 (x + 8) (Nat.add_lt_add_right hx 8),
        ← winner_find (toSpec r) (mem vram) (mem oam) sel x ly hsorted
          (fun i => opaqueAt (x + 8) (mkObj (Cfg.ofRegs r) vram oam ly i))
          (fun i hi => congrArg (· != 0) (pixAt_mkObj hvb hob x (hon i hi)))
          (fun i => (mkObj (Cfg.ofRegs r) vram oam ly i).xCoord) fun _ => rfl]
      simp only [List.find?_map, List.all_map, Function.comp_def]
      cases hf : sel.find? _ with
      | none => rfl
      | some i => exact objByte_mkObj hvb hob x (hon i (List.mem_of_find?_eq_some hf))

end GbVerif.PpuSel
