import GbVerif.Proofs.BusFrame
import GbVerif.Spec.BusSpec
import GbVerif.Props.C12
/-!
Refinement of the bus model to the banked byte-store spec (`Spec/BusSpec.lean`): an abstraction relation between
model states and spec memories that holds initially, is preserved by every write, and makes every read outside the
I/O window agree.  The controller registers are related as C12 relates them: this file imports `Props/C12.lean` for
`C12.Rel`, `ctlOf` and the lemmas about one register write.
-/
namespace GbVerif.BusProofs
open GbVerif.Bus GbVerif.CartSpec

/-- `arr` holds the cells under the keys `base … base + n - 1` (an unwritten cell reads 0) -/
def Backs (cells : Nat → Option Nat) (base n : Nat) (arr : Array Nat) : Prop :=
  ∀ i, i < n → (cells (base + i)).getD 0 = arr.getD i 0

/-- abstraction relation: the controller registers are related as in C12, the ROM images coincide and each model
array is the corresponding range of the spec's cell function -/
structure Rel (s : State) (m : BusSpec.Mem) : Prop where
  wf : WF s
  ctl : m.ctl = C12.ctlOf s.cart.kind
  romBanks : m.romBanks = s.cart.romBanks
  ramBytes : m.ramBytes = s.cram.size
  ramBanks : s.cart.ramBanks = s.cram.size / 0x2000
  rom : m.rom = s.rom
  regs : C12.Rel s.cart m.regs
  vram : Backs m.cells 0x10000 0x2000 s.vram
  cram : Backs m.cells 0x20000 (min s.cram.size 0x8000) s.cram
  wram : Backs m.cells 0x200000 0x2000 s.wram
  oam : Backs m.cells 0x300000 0xa0 s.oam
  hram : Backs m.cells 0x400000 127 s.hram
  ie : (m.cells 0x40007f).getD 0 = s.io.ie ||| s.io.ieUpper

theorem getD_replicate_zero (n i : Nat) : (Array.replicate n 0).getD i 0 = 0 := by
  simp only [Array.getD_eq_getD_getElem?, Array.getElem?_replicate]
  split <;> rfl

theorem rel_create (k : Cart.Kind) (romBanks ramBytes : Nat) (rom : Nat → Nat) (h : 2 ≤ romBanks) :
    Rel (create k romBanks ramBytes rom)
      { ctl := C12.ctlOf k, romBanks := romBanks, ramBytes := ramBytes, rom := rom } where
  wf := wf_create k romBanks ramBytes rom h
  ctl := rfl
  romBanks := rfl
  ramBytes := by simp [create]
  ramBanks := by simp [create, Cart.init]
  rom := rfl
  regs := C12.rel_init k romBanks (ramBytes / 0x2000)
  vram := fun i _ => (getD_replicate_zero _ i).symm
  cram := fun i _ => (getD_replicate_zero _ i).symm
  wram := fun i _ => (getD_replicate_zero _ i).symm
  oam := fun i _ => (getD_replicate_zero _ i).symm
  hram := fun i _ => (getD_replicate_zero _ i).symm
  ie := by show (none : Option Nat).getD 0 = (0 ||| 0 : Nat); decide

section spec
variable (m : BusSpec.Mem) (a : Nat)

theorem key_rom (h : a < 0x8000) : BusSpec.cellKey m a = none := by
  unfold BusSpec.cellKey; rw [if_pos h]
theorem key_vram (h1 : 0x8000 ≤ a) (h2 : a < 0xa000) : BusSpec.cellKey m a = some (0x10000 + (a - 0x8000)) := by
  unfold BusSpec.cellKey; rw [if_neg (by omega), if_pos h2]
theorem key_cram (h1 : 0xa000 ≤ a) (h2 : a < 0xc000) :
    BusSpec.cellKey m a = if ramBank m.ctl (m.ramBytes / 0x2000) m.regs * 0x2000 + (a - 0xa000) < m.ramBytes
      then some (0x20000 + (ramBank m.ctl (m.ramBytes / 0x2000) m.regs * 0x2000 + (a - 0xa000))) else none := by
  unfold BusSpec.cellKey; rw [if_neg (by omega), if_neg (by omega), if_pos h2]
theorem key_wram (h1 : 0xc000 ≤ a) (h2 : a < 0xe000) : BusSpec.cellKey m a = some (0x200000 + (a - 0xc000)) := by
  unfold BusSpec.cellKey; rw [if_neg (by omega), if_neg (by omega), if_neg (by omega), if_pos h2]
theorem key_echo (h1 : 0xe000 ≤ a) (h2 : a < 0xfe00) : BusSpec.cellKey m a = none := by
  unfold BusSpec.cellKey; rw [if_neg (by omega), if_neg (by omega), if_neg (by omega), if_neg (by omega), if_pos h2]
theorem key_oam (h1 : 0xfe00 ≤ a) (h2 : a < 0xfea0) : BusSpec.cellKey m a = some (0x300000 + (a - 0xfe00)) := by
  unfold BusSpec.cellKey
  rw [if_neg (by omega), if_neg (by omega), if_neg (by omega), if_neg (by omega), if_neg (by omega), if_pos h2]
theorem key_unused_io (h1 : 0xfea0 ≤ a) (h2 : a < 0xff80) : BusSpec.cellKey m a = none := by
  unfold BusSpec.cellKey
  rw [if_neg (by omega), if_neg (by omega), if_neg (by omega), if_neg (by omega), if_neg (by omega),
    if_neg (by omega), if_pos h2]
theorem key_hram (h1 : 0xff80 ≤ a) : BusSpec.cellKey m a = some (0x400000 + (a - 0xff80)) := by
  unfold BusSpec.cellKey
  rw [if_neg (by omega), if_neg (by omega), if_neg (by omega), if_neg (by omega), if_neg (by omega),
    if_neg (by omega), if_neg (by omega)]

theorem sread_rom0 (h : a < 0x4000) : BusSpec.read m a = m.rom a := by
  unfold BusSpec.read; rw [if_pos h]
theorem sread_romx (h1 : 0x4000 ≤ a) (h2 : a < 0x8000) :
    BusSpec.read m a = m.rom (romBank m.ctl m.romBanks m.regs * 0x4000 + (a - 0x4000)) := by
  unfold BusSpec.read; rw [if_neg (by omega), if_pos h2]
theorem sread_key {k : Nat} (h1 : 0x8000 ≤ a) (hk : BusSpec.cellKey m a = some k) :
    BusSpec.read m a = (m.cells k).getD 0 := by
  unfold BusSpec.read; rw [if_neg (by omega), if_neg (by omega), hk]
theorem sread_none (h1 : 0x8000 ≤ a) (hk : BusSpec.cellKey m a = none) :
    BusSpec.read m a = if 0xa000 ≤ a ∧ a < 0xc000 then 0xff else 0 := by
  unfold BusSpec.read; rw [if_neg (by omega), if_neg (by omega), hk]

theorem swrite_rom (v : Nat) (h : a < 0x8000) :
    BusSpec.write m a v = { m with regs := applyWrite m.ctl m.regs a v } := by
  unfold BusSpec.write; rw [if_pos h]
theorem swrite_key (v : Nat) {k : Nat} (h1 : 0x8000 ≤ a) (hk : BusSpec.cellKey m a = some k) :
    BusSpec.write m a v = { m with cells := fun j => if j = k then some v else m.cells j } := by
  unfold BusSpec.write; rw [if_neg (by omega), hk]
theorem swrite_none (v : Nat) (h1 : 0x8000 ≤ a) (hk : BusSpec.cellKey m a = none) : BusSpec.write m a v = m := by
  unfold BusSpec.write; rw [if_neg (by omega), hk]

end spec

/-- the spec's RAM bank is one of the four the controllers can select -/
theorem ramBank_lt4 (c : Cart.State) (r : Regs) (n : Nat) (h : C12.Rel c r) : ramBank (C12.ctlOf c.kind) n r < 4 := by
  unfold C12.Rel at h
  unfold ramBank C12.ctlOf
  by_cases hn : n = 0
  · rw [if_pos hn]; decide
  · rw [if_neg hn]
    have hpos : 0 < n := Nat.pos_of_ne_zero hn
    cases hk : c.kind <;> simp only [hk] at h ⊢
    · decide
    · obtain ⟨_, _, _, _, h5, _⟩ := h
      split
      · exact Nat.lt_of_le_of_lt (Nat.mod_le _ _) (by decide)
      · exact Nat.lt_of_le_of_lt (Nat.mod_le _ _) h5
    · obtain ⟨_, _, _, h4⟩ := h
      exact Nat.lt_of_le_of_lt (Nat.mod_le _ _) h4

/-- model and spec agree on the cartridge-RAM index behind an address -/
theorem cramIdx_spec {s : State} {m : BusSpec.Mem} (r : Rel s m) (a : Nat) :
    ramBank m.ctl (m.ramBytes / 0x2000) m.regs * 0x2000 + (a - 0xa000) = s.cramIdx a ∧
    ramBank m.ctl (m.ramBytes / 0x2000) m.regs < 4 := by
  have hb := (C12.banks_of_rel s.cart m.regs r.regs).2
  have h4 := ramBank_lt4 s.cart m.regs (s.cram.size / 0x2000) r.regs
  rw [r.ctl, r.ramBytes]
  rw [r.ramBanks] at hb
  simp only [State.cramIdx, hb]
  exact ⟨by omega, h4⟩

theorem rel_read {s : State} {m : BusSpec.Mem} (r : Rel s m) (a : Nat) (ha : a < 65536)
    (hio : ¬ (0xff00 ≤ a ∧ a < 0xff80)) : read s a = .ok (BusSpec.read m a) := by
  have wf := r.wf
  rcases regions a ha with h | ⟨h1, h2⟩ | ⟨h1, h2⟩ | ⟨h1, h2⟩ | ⟨h1, h2⟩ | ⟨h1, h2⟩ | ⟨h1, h2⟩ | ⟨h1, h2⟩ | ⟨h1, h2⟩ | ⟨h1, h2⟩ | h
  · rw [read_rom0_wf wf h, sread_rom0 m a h, r.rom]
  · rw [read_romx_wf wf h1 h2, sread_romx m a h1 h2, r.rom, r.ctl, r.romBanks,
      ← (C12.banks_of_rel s.cart m.regs r.regs).1, Nat.mul_comm]
  · rw [read_vram_wf wf h1 h2, sread_key m a h1 (key_vram m a h1 h2), r.vram _ (by omega)]
  · obtain ⟨hidx, h4⟩ := cramIdx_spec r a
    rw [read_cram_wf wf h1 h2]
    have hk := key_cram m a h1 h2
    rw [hidx, r.ramBytes] at hk
    by_cases hi : s.cramIdx a < s.cram.size
    · rw [if_pos hi] at hk ⊢
      rw [sread_key m a (by omega) hk, r.cram _ (by rw [← hidx] at hi ⊢; omega)]
    · rw [if_neg hi] at hk ⊢
      rw [sread_none m a (by omega) hk, if_pos ⟨h1, h2⟩]
  · rw [read_wram_wf wf h1 h2, sread_key m a (by omega) (key_wram m a h1 h2), r.wram _ (by omega)]
  · rw [read_echo s a h1 h2, sread_none m a (by omega) (key_echo m a h1 h2), if_neg (by omega)]
  · rw [read_oam_wf wf h1 h2, sread_key m a (by omega) (key_oam m a h1 h2), r.oam _ (by omega)]
  · rw [read_unused s a h1 h2, sread_none m a (by omega) (key_unused_io m a h1 (by omega)), if_neg (by omega)]
  · exact absurd ⟨h1, h2⟩ hio
  · rw [read_hram_wf wf h1 h2, sread_key m a (by omega) (key_hram m a h1), r.hram _ (by omega)]
  · subst h
    rw [read_ie s _ rfl, sread_key m _ (by omega) (key_hram m _ (by omega))]
    exact congrArg Except.ok r.ie.symm

/-- a store under one of the array's own keys is the same store into the array -/
theorem Backs.store {cells : Nat → Option Nat} {base n : Nat} {arr : Array Nat} (h : Backs cells base n arr)
    (i0 v : Nat) (hi0 : i0 < arr.size) :
    Backs (fun j => if j = base + i0 then some v else cells j) base n (arr.setIfInBounds i0 v) := fun i hi => by
  show (if base + i = base + i0 then some v else cells (base + i)).getD 0 = _
  rw [getD_sib]
  by_cases e : i0 = i
  · rw [if_pos (by rw [e]), if_pos ⟨e, hi0⟩]; rfl
  · rw [if_neg (by omega), if_neg (fun hh => e hh.1)]; exact h i hi

/-- a store under any key outside the array's range leaves the array's cells alone -/
theorem Backs.frame {cells : Nat → Option Nat} {base n : Nat} {arr : Array Nat} (h : Backs cells base n arr)
    (k v : Nat) (hk : k < base ∨ base + n ≤ k) : Backs (fun j => if j = k then some v else cells j) base n arr :=
  fun i hi => by
    show (if base + i = k then some v else cells (base + i)).getD 0 = _
    rw [if_neg (by omega)]; exact h i hi

theorem cell_frame (m : BusSpec.Mem) (k v j : Nat) (hne : j ≠ k) :
    (({ m with cells := fun j => if j = k then some v else m.cells j } : BusSpec.Mem).cells j).getD 0 = (m.cells j).getD 0 := by
  show (if j = k then some v else m.cells j).getD 0 = _
  rw [if_neg hne]

theorem setByte_ie (io : Io) (a v : Nat) : (io.setByte a v).ie = io.ie ∧ (io.setByte a v).ieUpper = io.ieUpper := by
  unfold Io.setByte
  split <;> exact ⟨rfl, rfl⟩

theorem rel_write {s s' : State} {m : BusSpec.Mem} (r : Rel s m) (a v : Nat) (ha : a < 65536) (hv : v < 256)
    (hw : write s a v = .ok s') : Rel s' (BusSpec.write m a v) := by
  have wf := r.wf
  rcases regions a ha with h | ⟨h1, h2⟩ | ⟨h1, h2⟩ | ⟨h1, h2⟩ | ⟨h1, h2⟩ | ⟨h1, h2⟩ | ⟨h1, h2⟩ | ⟨h1, h2⟩ | ⟨h1, h2⟩ | ⟨h1, h2⟩ | h
  -- controller registers (two regions of the case split)
  iterate 2
    have h8 : a < 0x8000 := by omega
    rw [write_rom s a v h8] at hw; injection hw with hw; subst hw
    rw [swrite_rom m a v h8]
    obtain ⟨hr, hk, hb, hm⟩ := C12.rel_step s.cart m.regs r.regs a v h8
    exact { r with wf := wf_write wf (write_rom s a v h8), ctl := by rw [hk]; exact r.ctl,
                   romBanks := by rw [hb]; exact r.romBanks, ramBanks := by rw [hm]; exact r.ramBanks,
                   regs := by rw [r.ctl]; exact hr }
  -- VRAM
  · rw [write_vram_wf wf v h1 h2] at hw; injection hw with hw; subst hw
    rw [swrite_key m a v h1 (key_vram m a h1 h2)]
    exact { r with wf := wf.congr (hv := by simp), vram := r.vram.store _ v (by rw [wf.vram]; omega),
                   cram := r.cram.frame _ v (by omega), wram := r.wram.frame _ v (by omega),
                   oam := r.oam.frame _ v (by omega), hram := r.hram.frame _ v (by omega),
                   ie := (cell_frame m (0x10000 + (a - 0x8000)) v 0x40007f (by omega)).trans r.ie }
  -- cartridge RAM
  · obtain ⟨hidx, h4⟩ := cramIdx_spec r a
    rw [write_cram_wf wf v h1 h2] at hw; injection hw with hw; subst hw
    have hk := key_cram m a h1 h2
    rw [hidx, r.ramBytes] at hk
    by_cases hi0 : s.cramIdx a < s.cram.size
    · rw [if_pos hi0] at hk
      rw [swrite_key m a v (by omega) hk]
      have hlt : s.cramIdx a < 0x8000 := by rw [← hidx]; omega
      exact { r with wf := wf.congr, ramBytes := by rw [Array.size_setIfInBounds]; exact r.ramBytes,
                     ramBanks := by rw [Array.size_setIfInBounds]; exact r.ramBanks,
                     vram := r.vram.frame _ v (by omega),
                     cram := by rw [Array.size_setIfInBounds]; exact r.cram.store _ v hi0,
                     wram := r.wram.frame _ v (by omega), oam := r.oam.frame _ v (by omega),
                     hram := r.hram.frame _ v (by omega), ie := (cell_frame m (0x20000 + s.cramIdx a) v 0x40007f (by omega)).trans r.ie }
    · rw [if_neg hi0] at hk
      rw [swrite_none m a v (by omega) hk, sib_oob _ _ _ hi0]
      exact r
  -- WRAM
  · rw [write_wram_wf wf v h1 h2] at hw; injection hw with hw; subst hw
    rw [swrite_key m a v (by omega) (key_wram m a h1 h2)]
    exact { r with wf := wf.congr (hw := by simp), vram := r.vram.frame _ v (by omega),
                   cram := r.cram.frame _ v (by omega), wram := r.wram.store _ v (by rw [wf.wram]; omega),
                   oam := r.oam.frame _ v (by omega), hram := r.hram.frame _ v (by omega),
                   ie := (cell_frame m (0x200000 + (a - 0xc000)) v 0x40007f (by omega)).trans r.ie }
  -- echo
  · rw [write_echo s a v h1 h2] at hw; injection hw with hw; subst hw
    rw [swrite_none m a v (by omega) (key_echo m a h1 h2)]; exact r
  -- OAM
  · rw [write_oam_wf wf v h1 h2] at hw; injection hw with hw; subst hw
    rw [swrite_key m a v (by omega) (key_oam m a h1 h2)]
    exact { r with wf := wf.congr (ho := by simp), vram := r.vram.frame _ v (by omega),
                   cram := r.cram.frame _ v (by omega), wram := r.wram.frame _ v (by omega),
                   oam := r.oam.store _ v (by rw [wf.oam]; omega), hram := r.hram.frame _ v (by omega),
                   ie := (cell_frame m (0x300000 + (a - 0xfe00)) v 0x40007f (by omega)).trans r.ie }
  -- unused
  · rw [write_unused s a v h1 h2] at hw; injection hw with hw; subst hw
    rw [swrite_none m a v (by omega) (key_unused_io m a h1 (by omega))]; exact r
  -- I/O window: the spec memory does not change; the model changes registers that are outside the relation
  · rw [write_io s a v h1 h2] at hw
    rw [swrite_none m a v (by omega) (key_unused_io m a (by omega) h2)]
    split at hw
    · injection hw with hw; subst hw
      exact { r with wf := wf.congr }
    · injection hw with hw; subst hw
      exact { r with wf := wf.congr, ie := by rw [(setByte_ie s.io a v).1, (setByte_ie s.io a v).2]; exact r.ie }
  -- HRAM
  · rw [write_hram_wf wf v h1 h2] at hw; injection hw with hw; subst hw
    rw [swrite_key m a v (by omega) (key_hram m a h1)]
    exact { r with wf := wf.congr (hh := by simp), vram := r.vram.frame _ v (by omega),
                   cram := r.cram.frame _ v (by omega), wram := r.wram.frame _ v (by omega),
                   oam := r.oam.frame _ v (by omega), hram := r.hram.store _ v (by rw [wf.hram]; omega),
                   ie := (cell_frame m (0x400000 + (a - 0xff80)) v 0x40007f (by omega)).trans r.ie }
  -- IE: the spec keeps it as the 128th cell of the HRAM range
  · subst h
    rw [write_ie s _ v rfl] at hw; injection hw with hw; subst hw
    rw [swrite_key m _ v (by omega) (key_hram m _ (by omega))]
    exact { r with wf := wf.congr, vram := r.vram.frame _ v (by omega), cram := r.cram.frame _ v (by omega),
                   wram := r.wram.frame _ v (by omega), oam := r.oam.frame _ v (by omega),
                   hram := r.hram.frame _ v (by omega),
                   ie := (and_1f_or_e0 v hv).symm }

/-- a history of byte writes (address, value), run on the model -/
def runWrites (s : State) : List (Nat × Nat) → Except Panic State
  | [] => .ok s
  | w :: ws => write s w.1 w.2 >>= fun s1 => runWrites s1 ws

/-- …and on the spec -/
def specWrites (m : BusSpec.Mem) (ws : List (Nat × Nat)) : BusSpec.Mem :=
  ws.foldl (fun m w => BusSpec.write m w.1 w.2) m

theorem rel_history : ∀ (ws : List (Nat × Nat)) {s : State} {m : BusSpec.Mem}, Rel s m →
    (∀ w ∈ ws, w.1 < 65536 ∧ w.2 < 256) → ∃ s', runWrites s ws = .ok s' ∧ Rel s' (specWrites m ws)
  | [], s, m, r, _ => ⟨s, rfl, r⟩
  | w :: ws, s, m, r, h => by
    obtain ⟨hw1, hw2⟩ := h w List.mem_cons_self
    obtain ⟨s1, h1⟩ := write_total r.wf w.2 hw1
    have r1 := rel_write r w.1 w.2 hw1 hw2 h1
    obtain ⟨s2, h2, r2⟩ := rel_history ws r1 (fun x hx => h x (List.mem_cons_of_mem _ hx))
    exact ⟨s2, by simp only [runWrites, h1]; exact h2, r2⟩

end GbVerif.BusProofs
