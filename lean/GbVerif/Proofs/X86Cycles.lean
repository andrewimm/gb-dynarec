import GbVerif.Proofs.X86Paths
/-!
Soundness of the cycle path analysis (`JitCycles.pathSums`) with respect to the executable x86 model: if the analysis of a
template returns the list `L`, then EVERY execution of that template by `X86.run` — any register contents, flags, host
stack, operand bytes, any behaviour of the bus helpers — that reaches the end of the template has added one of the
totals in `L` to r15 (mod 2^64), and nothing else has touched r15.
-/
namespace GbVerif.X86
open GbVerif.JitCycles
variable {β : Type}

/-- the cycle analysis as a transfer function of the generic walk: the charge so far -/
def trCyc (ins : Instr) (a : Nat) : Option Nat :=
  if writesR15Otherwise ins then none else
  match ins with
  | .aluI .add .q 15 [n] true => if n ≥ 128 then none else some (a + n)
  | _ => some a

/-- `pathSums` is the generic walk with `trCyc`, summing from the end instead of from the start -/
theorem pathSums_paths (code : List (Nat × Instr)) (endOff : Nat) : ∀ (fa i a : Nat) (L : List Nat),
    pathSums code endOff i fa = some L → JitPaths.paths trCyc code endOff i fa a = some (L.map (a + ·)) := by
  intro fa
  induction fa with
  | zero => intro i a L h; cases h
  | succ fa ih =>
    intro i a L h
    rw [pathSums] at h
    split at h
    · rename_i hget
      rw [JitPaths.paths, hget]
      split at h
      · rename_i hi
        cases h
        exact if_pos hi
      · cases h
    · rename_i off ins hget
      simp only [] at h
      split at h
      · cases h
      · rename_i hw
        have other : (∀ c rel, ins ≠ .jcc c rel) → (∀ rel, ins ≠ .jmp rel) → (∀ n, ins ≠ .aluI .add .q 15 [n] true) →
            pathSums code endOff (i + 1) fa = some L →
            JitPaths.paths trCyc code endOff i (fa + 1) a = some (L.map (a + ·)) := by
          intro hj1 hj2 hadd hL
          have htr : trCyc ins a = some a := by
            unfold trCyc
            rw [if_neg hw]; simp only []
          rw [paths_nojump trCyc fa a hget hj1 hj2, htr]
          exact ih _ a L hL
        split at h
        · rw [paths_at trCyc fa a hget]
          exact jumpTo_congr h fun j hF => by
            split at hF
            · rename_i x y hx hy
              cases hF
              rw [ih _ a x hx, ih _ a y hy, List.map_append]
            · cases hF
        · rw [paths_at trCyc fa a hget]
          exact jumpTo_congr h fun j hF => ih _ a L hF
        · -- add r15, n
          rename_i n
          split at h
          · cases h
          · rename_i hn
            cases hL' : pathSums code endOff (i + 1) fa with
            | none => rw [hL'] at h; cases h
            | some L' =>
              rw [hL'] at h
              cases h
              have htr : trCyc (.aluI .add .q 15 [n] true) a = some (a + n) := if_neg hn
              rw [paths_nojump trCyc fa a hget (fun c rel e => by cases e) (fun rel e => by cases e), htr]
              show JitPaths.paths trCyc code endOff (i + 1) fa (a + n) = _
              rw [ih _ (a + n) L' hL']
              show _ = some ((L'.map (· + n)).map (a + ·))
              rw [List.map_map]
              exact congrArg some (List.map_congr_left fun l _ => (Nat.add_assoc a n l).trans (congrArg (a + ·) (Nat.add_comm n l)))
        · exact other (fun c rel e => by cases e) (fun rel e => by cases e) (fun n e => by cases e) h
        · exact other (fun c rel e => by cases e) (fun rel e => by cases e) (fun n e => by cases e) h
        · exact other (fun c rel e => by cases e) (fun rel e => by cases e) (fun n e => by cases e) h
        · exact other (fun c rel e => by cases e) (fun rel e => by cases e) (fun n e => by cases e) h
        · exact other (fun c rel e => by cases e) (fun rel e => by cases e) (fun n e => by cases e) h
        · rename_i h1 h2 h3 h4 h5 h6 h7 h8
          exact other h1 h2 h3 h

theorem cyc_carries (B : Interp.BusOps β) (base : Nat) :
    Carries B trCyc (fun a (t : St β) => (get t 15).toNat = (base + a) % 2 ^ 64) where
  pc := fun _ _ _ h => h
  step := by
    intro ins a a' s s1 len hj1 hj2 htr hR hsz hstep
    unfold trCyc at htr
    split at htr
    · cases htr
    · rename_i hw
      have hw' : writesR15Otherwise ins = false := by simpa using hw
      split at htr
      · rename_i n
        split at htr
        · cases htr
        · cases htr
          show (get s1 15).toNat = _
          rw [step_add_q B s s1 15 n len (by decide) (by omega) hsz hstep, hR, Nat.mod_add_mod, Nat.add_assoc]
      · rename_i hadd
        cases htr
        have hd : destReg ins ≠ some 15 := by
          unfold writesR15Otherwise at hw'
          split at hw'
          · rename_i n; exact absurd rfl (hadd n)
          · simpa using hw'
        show (get s1 15).toNat = _
        rw [step_reg B hstep hd (by decide)]
        exact hR

theorem pathSums_sound (B : Interp.BusOps β) (code : List (Nat × Instr)) (endOff : Nat) (hok : codeOk code endOff = true) :
    ∀ (fa i : Nat) (L : List Nat), pathSums code endOff i fa = some L →
    ∀ (fr : Nat) (s s' : St β), s.r.size = 16 → s.pc = offAt code endOff i → run B code endOff fr s = .ok s' →
    ∃ l ∈ L, (get s' 15).toNat = ((get s 15).toNat + l) % 2 ^ 64 := by
  intro fa i L h fr s s' hsz hpc hrun
  obtain ⟨a', ha', hR⟩ := paths_sound B trCyc (fun a t => (get t 15).toNat = ((get s 15).toNat + a) % 2 ^ 64) (cyc_carries B _)
    code endOff hok fa i 0 _ (pathSums_paths code endOff fa i 0 L h) fr s s' hsz hpc
    (by show _ = (_ + 0) % _; rw [Nat.add_zero, Nat.mod_eq_of_lt (get s 15).isLt]) hrun
  obtain ⟨l, hl, rfl⟩ := List.mem_map.mp ha'
  exact ⟨l, hl, by rw [hR, Nat.zero_add]⟩

theorem jitCycles_decodes {tokens : List Nat} {C : List Nat} (h : jitCycles tokens = some C) :
    ∃ code, decodeCode tokens = some code := by
  unfold jitCycles at h
  cases hdec : decodeCode tokens with
  | none => rw [hdec] at h; cases h
  | some code => exact ⟨code, rfl⟩

/-- **what `jitCycles` means**: if the analysis of a template yields the set `C`, every complete execution of the template
on the x86 model adds a member of `C` to r15 -/
theorem jitCycles_sound (B : Interp.BusOps β) (tokens : List Nat) (code : List (Nat × Instr)) (C : List Nat)
    (hdec : decodeCode tokens = some code) (hok : codeOk code (bytesOf tokens) = true) (hC : jitCycles tokens = some C)
    (fr : Nat) (s s' : St β) (hsz : s.r.size = 16) (hpc : s.pc = offAt code (bytesOf tokens) 0)
    (hrun : run B code (bytesOf tokens) fr s = .ok s') :
    ∃ l ∈ C, (get s' 15).toNat = ((get s 15).toNat + l) % 2 ^ 64 := by
  unfold jitCycles at hC
  rw [hdec] at hC
  simp only [] at hC
  cases hL : pathSums code (bytesOf tokens) 0 (code.length + 2) with
  | none => rw [hL] at hC; cases hC
  | some L =>
    rw [hL] at hC
    simp only [Option.map] at hC
    cases hC
    obtain ⟨l, hl, he⟩ := pathSums_sound B code (bytesOf tokens) hok _ 0 L hL fr s s' hsz hpc hrun
    exact ⟨l, (mem_norm l L).mpr hl, he⟩

end GbVerif.X86
