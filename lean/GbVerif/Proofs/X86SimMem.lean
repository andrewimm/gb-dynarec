import GbVerif.Proofs.X86Flags
import GbVerif.Proofs.X86SimMoves
/-
C01, the bus side: the loads and stores through a register pair — LD r,(HL), LD (HL),r, LD A,(BC) / (DE) / (HL+) / (HL-),
LD (BC) / (DE) / (HL+),A (LD (HL-),A is in X86SimMemDec.lean).  A load template saves rax rcx rdx rbx, calls
`memory_read_byte` with the address in rsi and the memory base in rdi, pokes the result byte into the stack slot of the
saved register that holds `r`, and pops the four registers back; a store template saves rax rcx rdx, puts the byte into dl and
calls `memory_write_byte`.  The interpreter and the template perform the same bus access (same address, same byte) and end
with the same registers: `SimulatesMem`, with its introduction lemmas.  The layers of a template are stated once, over
variables: `exec_pushAll` / `exec_popAll`, `exec_call_read`, `exec_read_poke` (a load; the address instructions are a
parameter, `AddrPre`), `exec_write_pop`, `exec_write` (a store).
-/
namespace GbVerif.X86
open GbVerif.JitCycles GbVerif.Interp
variable {β : Type}

theorem callBus_ret (B : BusOps β) {s s' : St β} (hsz : s.r.size = 16) (h : callBus B s = .ok s') :
    ∃ x, helperCall B s.bus (get s 0).toNat ((get s 6).toNat % 65536) (get s 2).toNat = .ok x ∧
      RegUpd (X86Wf.writes .callRax) { s with bus := x.2 } s' ∧ (get s' 0).toNat % 65536 = x.1 % 65536 := by
  obtain ⟨x, hx, hu⟩ := callBus_ok B h
  refine ⟨x, hx, hu, ?_⟩
  unfold callBus at h
  simp only [bind, Except.bind, pure, Except.pure, hx] at h
  split at h
  · cases h
  · split at h
    · cases h
    · rename_i v hv
      injection h with h
      have hr := congrArg St.r h
      simp only [] at hr
      unfold get
      rw [← hr]
      show (get (set (nextJunk v).2 0 _) 0).toNat % 65536 = _
      rw [toNat_get_set _ _ _ (by show 0 < v.r.size; rw [(clobber_regUpd _ _ v hv).size]; show 0 < s.r.size; omega)]
      have hj := (nextJunk v).1.isLt
      omega

/-- a read returns a byte (`memory_read_byte` returns `u8`) -/
def ByteReads (B : BusOps β) : Prop := ∀ m a v, B.read m a = .ok v → v < 256

theorem helperCall_read (B : BusOps β) (bus : β) (addr val : Nat) (x : Nat × β)
    (h : helperCall B bus (ptrVal 513).toNat addr val = .ok x) : B.read bus addr = .ok x.1 ∧ x.2 = bus := by
  unfold helperCall at h
  rw [if_pos (by decide)] at h
  cases hr : B.read bus addr with
  | error e => rw [hr] at h; cases h
  | ok v => rw [hr] at h; cases h; exact ⟨rfl, rfl⟩

/-- offset of the byte of guest register `r` inside the four saved registers (rbx rdx rcx rax, top first) -/
def pokeOff : Reg8 → Nat
  | .B => 1 | .C => 0 | .D => 9 | .E => 8 | .H => 17 | .L => 16 | .A => 25

/-- `push rax rcx rdx rbx ; mov rsi, addr ; movabs rdi, base ; movabs rax, memory_read_byte ; call rax ;
mov [rsp + pokeOff r], al ; pop rbx rdx rcx rax` -/
def ldBody (addr : Nat) (r : Reg8) : List (Nat × Instr) :=
  [(0, Instr.push 0), (1, Instr.push 1), (2, Instr.push 2), (3, Instr.push 3), (4, Instr.mov Size.q 6 addr), (7, Instr.movabs 7 512),
   (17, Instr.movabs 0 513), (27, Instr.callRax), (29, Instr.store8 4 (pokeOff r) (R8.lo 0)),
   (33, Instr.pop 3), (34, Instr.pop 2), (35, Instr.pop 1), (36, Instr.pop 0)]

def opcodeLdHl (r : Reg8) : Nat := 0x46 + 8 * r8code r

theorem table_ldhl (r : Reg8) (b1 b2 : Nat) :
    decodeCode (Gen.emitOp (opcodeLdHl r)) = some (ldBody 1 r ++ [(37, addIp 1), (41, addCy 2)]) ∧
    bytesOf (Gen.emitOp (opcodeLdHl r)) = 45 ∧ Gen.decode (opcodeLdHl r) b1 b2 = (.LoadFromIndirect r .HL, 1, 8) := by
  cases r <;> exact ⟨by decide +kernel, by decide +kernel, rfl⟩

theorem stackWrite_byte (s s' : St β) (off v : Nat) (w : W) (hj : off % 8 + 1 ≤ 8) (hw : s.stack[off / 8]? = some w)
    (h : stackWrite s off 1 v = .ok s') :
    s' = { s with stack := (List.set s.stack (off / 8) (BitVec.ofNat 64 (w.toNat - (w.toNat / 2 ^ (8 * (off % 8)) % 2 ^ (8 * 1)) * 2 ^ (8 * (off % 8)) + (v % 2 ^ (8 * 1)) * 2 ^ (8 * (off % 8))))) } := by
  unfold stackWrite at h
  simp only [] at h
  rw [if_neg (by omega), hw] at h
  simp only [] at h
  injection h with h
  exact h.symm

theorem step_push (B : BusOps β) (s s1 : St β) (r len : Nat) (h : step B s (.push r) len = .ok s1) :
    (∀ j, get s1 j = get s j) ∧ s1.stack = get s r :: s.stack ∧ s1.bus = s.bus ∧ s1.r.size = s.r.size :=
  have e := step_effect B h
  ⟨fun j => e.frame j List.not_mem_nil, push_stack B h, e.bus nofun, e.size⟩

theorem step_pop (B : BusOps β) (s s1 : St β) (r len : Nat) (hr : r < s.r.size) (h : step B s (.pop r) len = .ok s1) :
    ∃ w rest, s.stack = w :: rest ∧ s1.stack = rest ∧ get s1 r = w ∧ (∀ j, r ≠ j → get s1 j = get s j) ∧
      s1.bus = s.bus ∧ s1.r.size = s.r.size :=
  have ⟨w, hs, hg⟩ := pop_stack B h
  have e := step_effect B h
  ⟨w, _, hs, rfl, hg hr, fun j hj => e.frame j fun hm => hj (List.mem_singleton.mp hm).symm, e.bus nofun, e.size⟩

theorem step_movq (B : BusOps β) {s s1 : St β} {d src len : Nat} (h : step B s (.mov .q d src) len = .ok s1) (hd : d < s.r.size) :
    get s1 d = get s src ∧ Keeps s s1 d := by
  refine ⟨?_, keeps_step B s s1 _ _ d h rfl rfl⟩
  cases Except.ok.inj h
  refine (get_set_eq ({ s with pc := s.pc + len } : St β) d _ hd).trans (BitVec.eq_of_toNat_eq ?_)
  rw [BitVec.toNat_ofNat]
  have := (get s src).isLt
  show (get s src).toNat % 2 ^ 64 % 2 ^ 64 = _
  omega

theorem step_movabs (B : BusOps β) (s s1 : St β) (d p len : Nat) (hd : d < s.r.size) (h : step B s (.movabs d p) len = .ok s1) :
    get s1 d = ptrVal p ∧ Keeps s s1 d :=
  ⟨movabs_get B h hd, keeps_step B s s1 _ _ d h rfl rfl⟩

theorem step_push_op1 (B : BusOps β) (s s1 : St β) (r len : Nat) (h : step B s (.push r) len = .ok s1) : s1.op1 = s.op1 := by
  cases Except.ok.inj h
  rfl

theorem step_movq_op1 (B : BusOps β) (s s1 : St β) (d src len : Nat) (h : step B s (.mov .q d src) len = .ok s1) : s1.op1 = s.op1 := by
  cases Except.ok.inj h
  rfl

theorem step_movabs_op1 (B : BusOps β) (s s1 : St β) (d p len : Nat) (h : step B s (.movabs d p) len = .ok s1) : s1.op1 = s.op1 := by
  cases Except.ok.inj h
  rfl

theorem step_call_read (B : BusOps β) (s s1 : St β) (len : Nat) (hsz : s.r.size = 16) (h0 : get s 0 = ptrVal 513) (h7 : get s 7 = ptrVal 512)
    (h : step B s .callRax len = .ok s1) :
    ∃ v, B.read s.bus ((get s 6).toNat % 65536) = .ok v ∧ (get s1 0).toNat % 65536 = v % 65536 ∧ s1.bus = s.bus ∧ s1.stack = s.stack ∧
      s1.r.size = 16 ∧ (∀ j, j ∉ [0, 1, 2, 6, 7, 8, 9, 10, 11] → get s1 j = get s j) := by
  obtain ⟨x, hx, hu, hv⟩ := callBus_ret B (s := { s with pc := s.pc + len }) hsz h
  rw [show get ({ s with pc := s.pc + len } : St β) 0 = ptrVal 513 from h0] at hx
  obtain ⟨hr, hb2⟩ := helperCall_read B _ _ _ _ hx
  exact ⟨x.1, hr, hv, hu.bus.trans hb2, hu.stack, hu.size.trans hsz, hu.frame⟩

theorem step_store8_stack (B : BusOps β) (s s1 : St β) (off len : Nat) (src : R8) (w : W) (hj : off % 8 + 1 ≤ 8) (hw : s.stack[off / 8]? = some w)
    (h : step B s (.store8 4 off src) len = .ok s1) :
    (∀ j, get s1 j = get s j) ∧ s1.bus = s.bus ∧ s1.r.size = s.r.size ∧
    s1.stack = List.set s.stack (off / 8) (BitVec.ofNat 64 (w.toNat - (w.toNat / 2 ^ (8 * (off % 8)) % 2 ^ (8 * 1)) * 2 ^ (8 * (off % 8)) + (get8 s src % 2 ^ (8 * 1)) * 2 ^ (8 * (off % 8)))) := by
  have h' : stackWrite ({ s with pc := s.pc + len } : St β) off 1 (get8 s src) = .ok s1 := h
  have := stackWrite_byte ({ s with pc := s.pc + len } : St β) s1 off (get8 s src) w hj hw h'
  subst this
  exact ⟨fun _ => rfl, rfl, rfl, rfl⟩


/-- `push r₁ ; … ; push rₖ` from pairs (offset, register) -/
def pushAll (ps : List (Nat × Nat)) : List (Nat × Instr) := ps.map fun p => (p.1, Instr.push p.2)
/-- `pop r₁ ; … ; pop rₖ` from pairs (offset, register) -/
def popAll (ps : List (Nat × Nat)) : List (Nat × Instr) := ps.map fun p => (p.1, Instr.pop p.2)

theorem exec_pushAll (B : BusOps β) (e : Nat) : ∀ (ps : List (Nat × Nat)) (s s' : St β), execList B e (pushAll ps) s = .ok s' →
    (∀ j, get s' j = get s j) ∧ s'.r.size = s.r.size ∧ s'.stack = (ps.map (·.2)).reverse.map (get s) ++ s.stack ∧ s'.bus = s.bus ∧
      s'.op1 = s.op1 ∧ s'.op2 = s.op2
  | [], s, s', h => by cases execList_nil B _ _ _ h; exact ⟨fun _ => rfl, rfl, rfl, rfl, rfl, rfl⟩
  | (o, r) :: ps, s, s', h => by
    obtain ⟨s1, h1, h2⟩ := execList_cons B _ _ _ _ _ _ h
    obtain ⟨hr, hz, hk, hb, p1, p2⟩ := exec_pushAll B e ps s1 s' h2
    cases (Except.ok.inj h1 : ({ s with pc := _, stack := get s r :: s.stack } : St β) = s1)
    refine ⟨hr, hz, ?_, hb, p1, p2⟩
    rw [hk, List.map_cons, List.reverse_cons, List.map_append, List.append_assoc]
    rfl

theorem exec_popAll (B : BusOps β) (e : Nat) (F : Nat → W) (rest : List W) : ∀ (ps : List (Nat × Nat)) (s s' : St β),
    s.stack = ps.map (fun p => F p.2) ++ rest → (∀ p ∈ ps, p.2 < 16) → s.r.size = 16 → execList B e (popAll ps) s = .ok s' →
    s'.stack = rest ∧ s'.bus = s.bus ∧ s'.r.size = 16 ∧ ∀ j, get s' j = if j ∈ ps.map (·.2) then F j else get s j
  | [], s, s', hk, _, hz, h => by cases execList_nil B _ _ _ h; exact ⟨hk, rfl, hz, fun _ => rfl⟩
  | (o, r) :: ps, s, s', hk, hlt, hz, h => by
    obtain ⟨s1, h1, h2⟩ := execList_cons B _ _ _ _ _ _ h
    obtain ⟨w, t, ew, k1, g1, q1, b1, z1⟩ := step_pop B s s1 r _ (hz ▸ hlt _ List.mem_cons_self) h1
    obtain ⟨ew1, ew2⟩ := List.cons.inj (ew.symm.trans hk)
    obtain ⟨k', b', z', r'⟩ := exec_popAll B e F rest ps s1 s' (k1.trans ew2) (fun p hp => hlt p (List.mem_cons_of_mem _ hp))
      (z1.trans hz) h2
    refine ⟨k', b'.trans b1, z', fun j => ?_⟩
    show get s' j = if j ∈ r :: ps.map (·.2) then F j else get s j
    rw [r' j]
    by_cases hj : j ∈ ps.map (·.2)
    · rw [if_pos hj, if_pos (List.mem_cons_of_mem _ hj)]
    · rw [if_neg hj]
      by_cases hr : j = r
      · rw [if_pos (List.mem_cons.mpr (Or.inl hr)), hr, g1, ew1]
      · rw [if_neg (fun h => (List.mem_cons.mp h).elim hr hj), q1 j (fun e => hr e.symm)]

theorem set_saved {α : Type} (f f' : Nat → α) (stk : List α) {k : Nat} (hf : ∀ j, j ≠ k → f' j = f j) :
    ∀ (rs : List Nat) (i : Nat), rs.Nodup → rs[i]? = some k →
      (rs.map f ++ stk)[i]? = some (f k) ∧ (rs.map f ++ stk).set i (f' k) = rs.map f' ++ stk
  | [], _, _, h => by cases h
  | r :: rs, 0, hn, h => by
    cases h
    have hrs : ∀ j ∈ rs, f j = f' j := fun j hj => (hf j (fun e => (List.nodup_cons.mp hn).1 (e ▸ hj))).symm
    exact ⟨rfl, by rw [List.map_cons, List.map_cons, List.map_congr_left hrs]; rfl⟩
  | r :: rs, i + 1, hn, h => by
    have h' : rs[i]? = some k := h
    obtain ⟨h1, h2⟩ := set_saved f f' stk hf rs i (List.nodup_cons.mp hn).2 h'
    have hr : r ≠ k := fun e => (List.nodup_cons.mp hn).1 (e ▸ List.mem_of_getElem? h')
    exact ⟨h1, by rw [List.map_cons, List.map_cons, hf r hr]; exact congrArg (f r :: ·) h2⟩

/-- a byte stored over byte 0 or 1 of a saved copy of a register is what `set8` writes into the register -/
theorem poke_set8 (s : St β) (t : R8) (v b : Nat) (hb : b = match t with | .lo _ => 0 | .hi _ => 1) (h : r8reg t < s.r.size) :
    BitVec.ofNat 64 ((get s (r8reg t)).toNat - ((get s (r8reg t)).toNat / 2 ^ (8 * b) % 2 ^ (8 * 1)) * 2 ^ (8 * b) +
      (v % 2 ^ (8 * 1)) * 2 ^ (8 * b)) = get (set8 s t v) (r8reg t) := by
  subst hb
  cases t <;> simp only [set8, r8reg] at h ⊢ <;> rw [get_set_eq _ _ _ h]
  simp only [Nat.mul_zero, Nat.pow_zero, Nat.div_one, Nat.mul_one]

/-- between the saves and the restores, the helper call aside: at most the registers a helper call may clobber change, the host
stack and the bus stay -/
structure Scratch (s s' : St β) : Prop where
  regs : ∀ j, j ∉ [0, 1, 2, 6, 7, 8, 9, 10, 11] → get s' j = get s j
  stack : s'.stack = s.stack
  bus : s'.bus = s.bus
  size : s'.r.size = s.r.size

theorem Scratch.trans {s s1 s2 : St β} (a : Scratch s s1) (b : Scratch s1 s2) : Scratch s s2 :=
  ⟨fun j hj => (b.regs j hj).trans (a.regs j hj), b.stack.trans a.stack, b.bus.trans a.bus, b.size.trans a.size⟩

theorem Scratch.of_frame {s s1 : St β} {d : Nat} (hd : d ∈ [0, 1, 2, 6, 7, 8, 9, 10, 11]) (h : Keeps s s1 d) : Scratch s s1 :=
  ⟨fun j hj => h.regs j (fun e => hj (e ▸ hd)), h.stack, h.bus, h.size⟩

theorem not_scratch {rs : List Nat} (h012 : ∀ j, j ∈ [0, 1, 2] → j ∈ rs) {j : Nat} (hm : j ∉ rs) (hj : j ∉ [6, 7, 8, 9, 10, 11]) :
    j ∉ [0, 1, 2, 6, 7, 8, 9, 10, 11] := fun h => by
  have h0 : j ≠ 0 := fun e => hm (h012 j (by rw [e]; decide))
  have h1 : j ≠ 1 := fun e => hm (h012 j (by rw [e]; decide))
  have h2 : j ≠ 2 := fun e => hm (h012 j (by rw [e]; decide))
  simp only [List.mem_cons, List.not_mem_nil, or_false] at h hj
  omega

theorem exec_call_read (B : BusOps β) (hB : ByteReads B) {e o1 o2 o3 : Nat} {s s' : St β} (hsz : s.r.size = 16)
    (hex : execList B e [(o1, Instr.movabs 7 512), (o2, Instr.movabs 0 513), (o3, Instr.callRax)] s = .ok s') :
    ∃ v, B.read s.bus ((get s 6).toNat % 65536) = .ok v ∧ v < 256 ∧ get8 s' (.lo 0) = v ∧ Scratch s s' := by
  obtain ⟨s1, h1, hex⟩ := execList_cons B _ _ _ _ _ _ hex
  obtain ⟨s2, h2, hex⟩ := execList_cons B _ _ _ _ _ _ hex
  obtain ⟨v1, f1⟩ := step_movabs B s s1 7 512 _ (by omega) h1
  obtain ⟨v2, f2⟩ := step_movabs B s1 s2 0 513 _ (by rw [f1.size]; omega) h2
  have sc := (Scratch.of_frame (by decide) f1).trans (.of_frame (by decide) f2)
  obtain ⟨v, hrd, hv, b3, k3, z3, r3⟩ := step_call_read B s2 s' _ (sc.size.trans hsz) v2 ((f2.regs 7 (by decide)).trans v1)
    (execList_one B hex)
  rw [f2.regs 6 (by decide), f1.regs 6 (by decide), sc.bus] at hrd
  have hvlt := hB _ _ _ hrd
  refine ⟨v, hrd, hvlt, ?_, sc.trans ⟨r3, k3, b3, z3.trans (sc.size.trans hsz).symm⟩⟩
  show (get s' 0).toNat % 256 = v
  omega

theorem sim_of_regs {g : Regs} {s s' : St β} (h : Sim g s) (hr : ∀ j, j ∉ [6, 7, 8, 9, 10, 11] → get s' j = get s j)
    (hsz : s'.r.size = 16) : Sim g s' :=
  ⟨hr 0 (by decide) ▸ h.af, hr 1 (by decide) ▸ h.hl, hr 2 (by decide) ▸ h.de, hr 3 (by decide) ▸ h.bc, hr 12 (by decide) ▸ h.sp,
   hr 13 (by decide) ▸ h.ip, hr 15 (by decide) ▸ h.cy, hsz⟩

/-- what the address instructions must do, run after the saves from a state with the registers and operand bytes of `st`:
rsi's low 16 bits := `A`, nothing else moves -/
def AddrPre (B : BusOps β) (st : St β) (apre : List (Nat × Instr)) (A : Nat) : Prop :=
  ∀ (e : Nat) (s s2 : St β), s.r.size = 16 → (∀ j, get s j = get st j) → s.op1 = st.op1 → s.op2 = st.op2 →
    execList B e apre s = .ok s2 →
    (get s2 6).toNat % 65536 = A ∧ (∀ j, 6 ≠ j → get s2 j = get s j) ∧ s2.stack = s.stack ∧ s2.bus = s.bus ∧ s2.r.size = 16

/-- saves `ps`; address into rsi; `memory_read_byte`; the byte poked at `[rsp + off]`, the place of `t` in the saved copies;
restores `qs`: the byte at the address is read and ends in `t`, as by `set8` -/
theorem exec_read_poke (B : BusOps β) (hB : ByteReads B) {rs : List Nat} (ps qs : List (Nat × Nat)) {pre : List (Nat × Instr)}
    {o1 o2 o3 o4 e : Nat} (off : Nat) (t : R8) {A : Nat} {st s' : St β} (hsz : st.r.size = 16)
    (hq : qs.map (·.2) = rs) (hp : ps.map (·.2) = rs.reverse) (hnd : rs.Nodup) (hlt : ∀ r ∈ rs, r < 4)
    (h012 : ∀ j, j ∈ [0, 1, 2] → j ∈ rs) (hbyte : off % 8 = match t with | .lo _ => 0 | .hi _ => 1) (hslot : rs[off / 8]? = some (r8reg t))
    (hpre : AddrPre B st pre A)
    (hex : execList B e (pushAll ps ++ (pre ++ (([(o1, Instr.movabs 7 512), (o2, Instr.movabs 0 513), (o3, Instr.callRax)] ++
      [(o4, Instr.store8 4 off (R8.lo 0))]) ++ popAll qs))) st = .ok s') :
    ∃ v, B.read st.bus A = .ok v ∧ v < 256 ∧ (∀ j, j ∉ [6, 7, 8, 9, 10, 11] → get s' j = get (set8 st t v) j) ∧ s'.r.size = 16 ∧
      Untouched st s' := by
  subst hq
  obtain ⟨s4, hpu, hex⟩ := execList_append B e _ _ st s' hex
  obtain ⟨s5, hpr, hex⟩ := execList_append B e _ _ s4 s' hex
  obtain ⟨s9, hmid, hpo⟩ := execList_append B e _ _ s5 s' hex
  obtain ⟨s8, hcall, hst⟩ := execList_append B _ _ _ s5 s9 hmid
  obtain ⟨R4, Z4, K4, B4, O1, O2⟩ := exec_pushAll B _ ps st s4 hpu
  obtain ⟨a5, r5, k5, b5, z5⟩ := hpre _ s4 s5 (Z4.trans hsz) R4 O1 O2 hpr
  obtain ⟨v, hrd, hv, hal, sc⟩ := exec_call_read B hB z5 hcall
  rw [a5, b5, B4] at hrd
  have hk : r8reg t < 16 := Nat.lt_trans (hlt _ (List.mem_of_getElem? hslot)) (by decide)
  have hne : ∀ j, j ≠ r8reg t → get (set8 st t v) j = get st j := fun j hj => get_set8_ne _ _ _ _ (fun e => hj e.symm)
  obtain ⟨hw, hset⟩ := set_saved (get st) (get (set8 st t v)) st.stack hne _ _ hnd hslot
  have K8 : s8.stack = (qs.map (·.2)).map (get st) ++ st.stack := by rw [sc.stack, k5, K4, hp, List.reverse_reverse]
  obtain ⟨r9, b9, z9, k9⟩ := step_store8_stack B s8 s9 off _ (.lo 0) (get st (r8reg t)) (by rw [hbyte]; cases t <;> exact Nat.le_of_ble_eq_true rfl)
    (K8 ▸ hw) (execList_one B hst)
  rw [hal, K8, poke_set8 st t v _ hbyte (hsz ▸ hk), hset, List.map_map] at k9
  obtain ⟨k', b', z', r'⟩ := exec_popAll B _ (get (set8 st t v)) st.stack qs s9 s' k9
    (fun p hp => Nat.lt_trans (hlt _ (List.mem_map_of_mem hp)) (by decide)) (by rw [z9, sc.size]; exact z5) hpo
  have hfr : ∀ j, j ∉ qs.map (·.2) → j ∉ [0, 1, 2, 6, 7, 8, 9, 10, 11] → get s' j = get st j := fun j hj hc => by
    rw [r' j, if_neg hj, r9 j, sc.regs j hc, r5 j (fun e => hc (e ▸ by decide)), R4]
  refine ⟨v, hrd, hv, fun j hj => ?_, z', ⟨by rw [b', b9, sc.bus, b5, B4], k', ?_⟩⟩
  · by_cases hm : j ∈ qs.map (·.2)
    · rw [r' j, if_pos hm]
    · rw [hfr j hm (not_scratch h012 hm hj), hne j (fun e => hm (e ▸ List.mem_of_getElem? hslot))]
  · exact hfr 14 (fun hm => absurd (hlt 14 hm) (by decide)) (by decide)

theorem addrPre_movq (B : BusOps β) (st : St β) (off addr : Nat) :
    AddrPre B st [(off, Instr.mov Size.q 6 addr)] ((get st addr).toNat % 65536) := fun _ s s2 hsz hr _ _ hex => by
  obtain ⟨v, f⟩ := step_movq B (execList_one B hex) (by omega)
  exact ⟨by rw [v, hr], f.regs, f.stack, f.bus, f.size.trans hsz⟩

theorem ld_body (B : BusOps β) (hB : ByteReads B) (addr : Nat) (areg : Reg16) (r : Reg8) (g : Regs) (st s13 : St β) (hs : Sim g st)
    (ha3 : addr = 1 ∨ addr = 2 ∨ addr = 3) (hareg : (get st addr).toNat % 65536 = getReg16 g areg)
    (hex : execList B 37 (ldBody addr r) st = .ok s13) :
    ∃ v, B.read st.bus (getReg16 g areg) = .ok v ∧ Sim (setReg g r v) s13 ∧ Untouched st s13 := by
  obtain ⟨v, hrd, hv, hr, hsz, hu⟩ := exec_read_poke B hB [(0, 0), (1, 1), (2, 2), (3, 3)] [(33, 3), (34, 2), (35, 1), (36, 0)]
    (pokeOff r) (hostR8 r) hs.size rfl rfl (by decide) (by decide) (by decide) (by cases r <;> rfl) (by cases r <;> rfl)
    (addrPre_movq B st 4 addr) hex
  exact ⟨v, hareg ▸ hrd, sim_of_regs (set8_sim hs r v hv) hr hsz, hu⟩

/-- `Simulates` with the bus: the interpreter, run on the bus the host state carries, performs the same accesses — it
succeeds with the register file the template's final state is related to, and the bus ends the same -/
def SimulatesMem (b0 b1 b2 : Nat) : Prop :=
  ∃ code, decodeCode (Gen.emitOp b0) = some code ∧
  ∀ (β : Type) (B : BusOps β), ByteReads B → ∀ (g : Regs) (fuel : Nat) (st st' : St β), Sim g st → st.pc = 0 → st.op1 = b1 → st.op2 = b2 →
    run B code (bytesOf (Gen.emitOp b0)) fuel st = .ok st' →
    ∃ g' m', runOp B (Gen.decode b0 b1 b2).1 g st.bus (Gen.decode b0 b1 b2).2.1 = .ok (g', m', STATUS_NORMAL) ∧
      Sim { g' with cycles := g'.cycles + (Gen.decode b0 b1 b2).2.2 / 4 } st' ∧ st'.bus = m' ∧ st'.stack = st.stack ∧ get st' 14 = get st 14

/-- `SimulatesMem` for the register files with property `P`, from the table row of the encoding and a lemma about the body alone -/
theorem simulatesMem_of_body (P : Regs → Prop) {b0 b1 b2 : Nat} {body : List (Nat × Instr)} {o1 o2 e n c k : Nat} {op : Op}
    (htab : decodeCode (Gen.emitOp b0) = some (body ++ [(o1, addIp n), (o2, addCy c)]) ∧ bytesOf (Gen.emitOp b0) = e ∧
      Gen.decode b0 b1 b2 = (op, n, k))
    (hnj : noJump body = true) (hn : n < 128) (hc : c < 128) (hk : k / 4 = c)
    (hbody : ∀ {β : Type} (B : BusOps β), ByteReads B → ∀ (g : Regs) (st s1 : St β), Sim g st → P g → st.op1 = b1 → st.op2 = b2 →
      execList B o1 body st = .ok s1 →
      ∃ g1 m', runOp B op g st.bus n = .ok (advance g1 n, m', STATUS_NORMAL) ∧ Sim g1 s1 ∧ s1.bus = m' ∧ s1.stack = st.stack ∧
        get s1 14 = get st 14) :
    ∃ code, decodeCode (Gen.emitOp b0) = some code ∧
    ∀ (β : Type) (B : BusOps β), ByteReads B → ∀ (g : Regs) (fuel : Nat) (st st' : St β), Sim g st → P g → st.pc = 0 → st.op1 = b1 →
      st.op2 = b2 → run B code (bytesOf (Gen.emitOp b0)) fuel st = .ok st' →
      ∃ g' m', runOp B (Gen.decode b0 b1 b2).1 g st.bus (Gen.decode b0 b1 b2).2.1 = .ok (g', m', STATUS_NORMAL) ∧
        Sim { g' with cycles := g'.cycles + (Gen.decode b0 b1 b2).2.2 / 4 } st' ∧ st'.bus = m' ∧ st'.stack = st.stack ∧
        get st' 14 = get st 14 := by
  obtain ⟨code, hdec, hrun⟩ := template_run htab.1 hnj hn hc
  refine ⟨code, hdec, fun β B hB g fuel st st' hsim hP hpc h1 h2 hr => ?_⟩
  obtain ⟨s1, hex, hu, htail⟩ := hrun β B fuel st st' hpc hr
  obtain ⟨g1, m', hi, hs1, hb, hk1, h14⟩ := hbody B hB g st s1 hsim hP h1 h2 hex
  rw [htab.2.2]
  exact ⟨_, m', hi, hk ▸ htail g1 hs1, hu.bus.trans hb, hu.stack.trans hk1, hu.r14.trans h14⟩

theorem SimulatesMem.intro {b0 b1 b2 : Nat} {body : List (Nat × Instr)} {o1 o2 e n c k : Nat} {op : Op}
    (htab : decodeCode (Gen.emitOp b0) = some (body ++ [(o1, addIp n), (o2, addCy c)]) ∧ bytesOf (Gen.emitOp b0) = e ∧
      Gen.decode b0 b1 b2 = (op, n, k))
    (hnj : noJump body = true) (hn : n < 128) (hc : c < 128) (hk : k / 4 = c)
    (hbody : ∀ {β : Type} (B : BusOps β), ByteReads B → ∀ (g : Regs) (st s1 : St β), Sim g st → st.op1 = b1 → st.op2 = b2 →
      execList B o1 body st = .ok s1 →
      ∃ g1 m', runOp B op g st.bus n = .ok (advance g1 n, m', STATUS_NORMAL) ∧ Sim g1 s1 ∧ s1.bus = m' ∧ s1.stack = st.stack ∧
        get s1 14 = get st 14) :
    SimulatesMem b0 b1 b2 :=
  have ⟨code, hdec, h⟩ := simulatesMem_of_body (fun _ => True) htab hnj hn hc hk fun B hB g st s1 hs _ => hbody B hB g st s1 hs
  ⟨code, hdec, fun β B hB g fuel st st' hs => h β B hB g fuel st st' hs trivial⟩

/-- the interpreter's clauses for the bus instructions are one bus access, then a step that cannot fail: this evaluates them -/
theorem bind_ok {ε α γ : Type} {x : Except ε α} {v : α} (h : x = .ok v) (f : α → Except ε γ) : x >>= f = f v := by
  rw [h]; rfl

/-- `SimulatesMem.intro` for a load: the interpreter reads the byte at `A g` and goes on with `F g` of it; so does the body -/
theorem SimulatesMem.intro_read {b0 b1 b2 : Nat} {body : List (Nat × Instr)} {o1 o2 e n c k : Nat} {op : Op} {A : Regs → Nat}
    {F : Regs → Nat → Regs}
    (htab : decodeCode (Gen.emitOp b0) = some (body ++ [(o1, addIp n), (o2, addCy c)]) ∧ bytesOf (Gen.emitOp b0) = e ∧
      Gen.decode b0 b1 b2 = (op, n, k))
    (hnj : noJump body = true) (hn : n < 128) (hc : c < 128) (hk : k / 4 = c)
    (hop : ∀ {β : Type} (B : BusOps β) (g : Regs) (m : β),
      runOp B op g m n = B.read m (A g) >>= fun v => .ok (advance (F g v) n, m, STATUS_NORMAL))
    (hbody : ∀ {β : Type} (B : BusOps β), ByteReads B → ∀ (g : Regs) (st s1 : St β), Sim g st → st.op1 = b1 → st.op2 = b2 →
      execList B o1 body st = .ok s1 → ∃ v, B.read st.bus (A g) = .ok v ∧ Sim (F g v) s1 ∧ Untouched st s1) :
    SimulatesMem b0 b1 b2 :=
  SimulatesMem.intro htab hnj hn hc hk fun B hB g st s1 hs h1 h2 hex =>
    have ⟨_, hrd, hs1, hu⟩ := hbody B hB g st s1 hs h1 h2 hex
    ⟨_, _, (hop B g st.bus).trans (bind_ok hrd _), hs1, hu.bus, hu.stack, hu.r14⟩

/-- `SimulatesMem.intro` for a store: the interpreter writes `V g` at `A g` and goes on with `F g`; so does the body -/
theorem SimulatesMem.intro_write {b0 b1 b2 : Nat} {body : List (Nat × Instr)} {o1 o2 e n c k : Nat} {op : Op} {A V : Regs → Nat}
    {F : Regs → Regs}
    (htab : decodeCode (Gen.emitOp b0) = some (body ++ [(o1, addIp n), (o2, addCy c)]) ∧ bytesOf (Gen.emitOp b0) = e ∧
      Gen.decode b0 b1 b2 = (op, n, k))
    (hnj : noJump body = true) (hn : n < 128) (hc : c < 128) (hk : k / 4 = c)
    (hop : ∀ {β : Type} (B : BusOps β) (g : Regs) (m : β),
      runOp B op g m n = B.write m (A g) (V g) >>= fun m' => .ok (advance (F g) n, m', STATUS_NORMAL))
    (hbody : ∀ {β : Type} (B : BusOps β) (g : Regs) (st s1 : St β), Sim g st → st.op1 = b1 → st.op2 = b2 →
      execList B o1 body st = .ok s1 →
      B.write st.bus (A g) (V g) = .ok s1.bus ∧ Sim (F g) s1 ∧ s1.stack = st.stack ∧ get s1 14 = get st 14) :
    SimulatesMem b0 b1 b2 :=
  SimulatesMem.intro htab hnj hn hc hk fun B _ g st s1 hs h1 h2 hex =>
    have ⟨hwr, hs1, hk, h14⟩ := hbody B g st s1 hs h1 h2 hex
    ⟨_, _, (hop B g st.bus).trans (bind_ok hwr _), hs1, rfl, hk, h14⟩

/-- **LD r,(HL)** (7 registers): all states, any bus whose reads return bytes -/
theorem sim_ldhl (r : Reg8) (b1 b2 : Nat) : SimulatesMem (opcodeLdHl r) b1 b2 :=
  SimulatesMem.intro_read (table_ldhl r b1 b2) rfl (by decide) (by decide) rfl (fun _ _ _ => rfl)
    fun B hB g st s1 hs _ _ hex => ld_body B hB 1 .HL r g st s1 hs (Or.inl rfl) hs.hl hex

theorem helperCall_write (B : BusOps β) (bus : β) (addr val : Nat) (x : Nat × β)
    (h : helperCall B bus (ptrVal 514).toNat addr val = .ok x) : B.write bus addr (val % 256) = .ok x.2 := by
  unfold helperCall at h
  rw [if_neg (by decide), if_pos (by decide)] at h
  cases hw : B.write bus addr (val % 256) with
  | error e => rw [hw] at h; cases h
  | ok b => rw [hw] at h; cases h; rfl

theorem step_call_write (B : BusOps β) (s s1 : St β) (len : Nat) (hsz : s.r.size = 16) (h0 : get s 0 = ptrVal 514)
    (h : step B s .callRax len = .ok s1) :
    B.write s.bus ((get s 6).toNat % 65536) ((get s 2).toNat % 256) = .ok s1.bus ∧ s1.stack = s.stack ∧
      s1.r.size = 16 ∧ (∀ j, j ∉ [0, 1, 2, 6, 7, 8, 9, 10, 11] → get s1 j = get s j) := by
  obtain ⟨x, hx, hu, _⟩ := callBus_ret B (s := { s with pc := s.pc + len }) hsz h
  rw [show get ({ s with pc := s.pc + len } : St β) 0 = ptrVal 514 from h0] at hx
  exact ⟨hu.bus ▸ helperCall_write B _ _ _ _ hx, hu.stack, hu.size.trans hsz, hu.frame⟩

/-- `push rax rcx rdx ; mov rsi, addr ; movabs rdi, base ; mov dl, r ; and rdx, 0xff ; movabs rax, memory_write_byte ; call rax ;
pop rdx rcx rax` -/
def stBody (addr : Nat) (r : Reg8) : List (Nat × Instr) :=
  [(0, Instr.push 0), (1, Instr.push 1), (2, Instr.push 2), (3, Instr.mov Size.q 6 addr), (6, Instr.movabs 7 512),
   (16, Instr.mov8 (R8.lo 2) (hostR8 r)), (18, Instr.aluI AluOp.and Size.q 2 [255, 0, 0, 0] false), (25, Instr.movabs 0 514),
   (35, Instr.callRax), (37, Instr.pop 2), (38, Instr.pop 1), (39, Instr.pop 0)]

def opcodeStHl (r : Reg8) : Nat := 0x70 + r8code r

theorem table_sthl (r : Reg8) (b1 b2 : Nat) :
    decodeCode (Gen.emitOp (opcodeStHl r)) = some (stBody 1 r ++ [(40, addIp 1), (44, addCy 2)]) ∧
    bytesOf (Gen.emitOp (opcodeStHl r)) = 48 ∧ Gen.decode (opcodeStHl r) b1 b2 = (.LoadToIndirect .HL r, 1, 8) := by
  cases r <;> exact ⟨by decide +kernel, by decide +kernel, rfl⟩

theorem get8_of_regs {s s' : St β} (r : Reg8) (h : ∀ j, j ≤ 3 → get s' j = get s j) : get8 s' (hostR8 r) = get8 s (hostR8 r) := by
  cases r <;> simp only [hostR8, get8] <;> rw [h _ (by decide)]

theorem step_mask_q8 (B : BusOps β) {s s' : St β} {r len : Nat} (h : step B s (.aluI .and .q r [255, 0, 0, 0] false) len = .ok s')
    (hr : r < s.r.size) :
    (get s' r).toNat = (get s r).toNat % 256 ∧ Keeps s s' r := by
  refine ⟨?_, keeps_step B s s' _ _ r h rfl rfl⟩
  rw [step_aluI_q B s s' .and r _ false len rfl hr h, immLE_4 s _ _ _ _ (by decide) (by decide) (by decide) (by decide)]
  show ((get s r).toNat &&& 2 ^ 8 - 1) % 2 ^ 64 = _
  rw [Nat.and_two_pow_sub_one_eq_mod]
  omega

/-- `mov dl, x` in either form -/
theorem step_set_dl (B : BusOps β) {X : Instr} {rd : St β → Nat}
    (hX : ∀ (s : St β) (len : Nat), step B s X len = .ok (set8 ({ s with pc := s.pc + len } : St β) (.lo 2) (rd s)))
    {s s1 : St β} {len : Nat} (hsz : s.r.size = 16) (h : step B s X len = .ok s1) :
    (get s1 2).toNat % 256 = rd s % 256 ∧ Keeps s s1 2 := by
  rw [hX] at h
  obtain rfl := Except.ok.inj h
  refine ⟨?_, fun j hj => get_set8_ne _ _ _ _ hj, bus_set8 _ _ _, stack_set8 _ _ _, size_set8 _ _ _⟩
  rw [toNat_set8_lo _ _ _ (by show 2 < s.r.size; omega)]
  have := (get s 2).isLt
  show ((get s 2).toNat - (get s 2).toNat % 256 + rd s % 256) % 2 ^ 64 % 256 = _
  omega

theorem exec_write_pop (B : BusOps β) (F : Nat → W) (rest : List W) (qs : List (Nat × Nat)) (o1 o2 e : Nat) (s s' : St β)
    (hsz : s.r.size = 16) (hk : s.stack = qs.map (fun p => F p.2) ++ rest) (hlt : ∀ p ∈ qs, p.2 < 16)
    (hex : execList B e ([(o1, Instr.movabs 0 514), (o2, Instr.callRax)] ++ popAll qs) s = .ok s') :
    B.write s.bus ((get s 6).toNat % 65536) ((get s 2).toNat % 256) = .ok s'.bus ∧ s'.stack = rest ∧ s'.r.size = 16 ∧
      (∀ j, j ∈ qs.map (·.2) → get s' j = F j) ∧
      ∀ j, j ∉ qs.map (·.2) → j ∉ [0, 1, 2, 6, 7, 8, 9, 10, 11] → get s' j = get s j := by
  obtain ⟨s9, hcall, hpo⟩ := execList_append B e _ _ s s' hex
  obtain ⟨s8, h8, hc⟩ := execList_cons B _ _ _ _ _ _ hcall
  obtain ⟨v8, r8, b8, k8, z8⟩ := step_movabs B s s8 0 514 _ (by omega) h8
  obtain ⟨hwr, k9, z9, r9⟩ := step_call_write B s8 s9 _ (z8.trans hsz) v8 (execList_one B hc)
  rw [r8 6 (by decide), r8 2 (by decide), b8] at hwr
  obtain ⟨k', b', z', r'⟩ := exec_popAll B _ F rest qs s9 s' (by rw [k9, k8, hk]) hlt z9 hpo
  exact ⟨b' ▸ hwr, k', z', fun j hj => (r' j).trans (if_pos hj), fun j hj hc => by
    rw [r' j, if_neg hj, r9 j hc, r8 j (fun e => hc (e ▸ by decide))]⟩

/-- saves `ps`; address into rsi and value into dl by `pre`; `memory_write_byte`; restores `qs`: the value is written to the address,
and the guest registers are as before -/
theorem exec_write (B : BusOps β) {rs : List Nat} (ps qs : List (Nat × Nat)) {pre : List (Nat × Instr)} {o1 o2 e A val : Nat}
    {g : Regs} {st s' : St β} (hs : Sim g st) (hq : qs.map (·.2) = rs) (hp : ps.map (·.2) = rs.reverse) (hlt : ∀ r ∈ rs, r < 4)
    (h012 : ∀ j, j ∈ [0, 1, 2] → j ∈ rs)
    (hpre : ∀ (e : Nat) (s s2 : St β), s.r.size = 16 → (∀ j, get s j = get st j) → s.op1 = st.op1 → s.op2 = st.op2 →
      execList B e pre s = .ok s2 →
      (get s2 6).toNat % 65536 = A ∧ (get s2 2).toNat % 256 = val ∧ Scratch s s2)
    (hex : execList B e (pushAll ps ++ (pre ++ ([(o1, Instr.movabs 0 514), (o2, Instr.callRax)] ++ popAll qs))) st = .ok s') :
    B.write st.bus A val = .ok s'.bus ∧ Sim g s' ∧ s'.stack = st.stack ∧ get s' 14 = get st 14 := by
  subst hq
  obtain ⟨s3, hpu, hex⟩ := execList_append B e _ _ st s' hex
  obtain ⟨s5, hpr, hex⟩ := execList_append B e _ _ s3 s' hex
  obtain ⟨R3, Z3, K3, B3, O1, O2⟩ := exec_pushAll B _ ps st s3 hpu
  obtain ⟨a5, d5, sc⟩ := hpre _ s3 s5 (Z3.trans hs.size) R3 O1 O2 hpr
  obtain ⟨hwr, k', z', rp, rf⟩ := exec_write_pop B (get st) st.stack qs o1 o2 e s5 s' (by rw [sc.size, Z3]; exact hs.size)
    (by rw [sc.stack, K3, hp, List.reverse_reverse, List.map_map]; rfl)
    (fun p hp => Nat.lt_trans (hlt _ (List.mem_map_of_mem hp)) (by decide)) hex
  rw [a5, d5, sc.bus, B3] at hwr
  have hfr : ∀ j, j ∉ [6, 7, 8, 9, 10, 11] → get s' j = get st j := fun j hj => by
    by_cases hm : j ∈ qs.map (·.2)
    · exact rp j hm
    · have hc := not_scratch h012 hm hj
      rw [rf j hm hc, sc.regs j hc, R3]
  exact ⟨hwr, sim_of_regs hs hfr z', k', hfr 14 (by decide)⟩

theorem st_pre (B : BusOps β) (st : St β) {X : Instr} {rd : St β → Nat}
    (hX : ∀ (s : St β) (len : Nat), step B s X len = .ok (set8 ({ s with pc := s.pc + len } : St β) (.lo 2) (rd s)))
    (val : Nat) (hval : val < 256) (hrd : ∀ s : St β, (∀ j, j ≤ 3 → get s j = get st j) → s.op1 = st.op1 → rd s = val)
    {addr o0 o1 o2 o3 e : Nat} {s s4 : St β} (hsz : s.r.size = 16) (hr : ∀ j, get s j = get st j) (ho : s.op1 = st.op1)
    (hex : execList B e [(o0, Instr.mov Size.q 6 addr), (o1, Instr.movabs 7 512), (o2, X),
      (o3, Instr.aluI AluOp.and Size.q 2 [255, 0, 0, 0] false)] s = .ok s4) :
    (get s4 6).toNat % 65536 = (get st addr).toNat % 65536 ∧ (get s4 2).toNat % 256 = val ∧ Scratch s s4 := by
  obtain ⟨s1, h1, hex⟩ := execList_cons B _ _ _ _ _ _ hex
  obtain ⟨s2, h2, hex⟩ := execList_cons B _ _ _ _ _ _ hex
  obtain ⟨s3, h3, hex⟩ := execList_cons B _ _ _ _ _ _ hex
  obtain ⟨v1, f1⟩ := step_movq B h1 (by omega)
  obtain ⟨v2, f2⟩ := step_movabs B s1 s2 7 512 _ (by rw [f1.size]; omega) h2
  have sc2 := (Scratch.of_frame (by decide) f1).trans (.of_frame (by decide) f2)
  obtain ⟨v3, f3⟩ := step_set_dl B hX (sc2.size.trans hsz) h3
  have sc3 := sc2.trans (.of_frame (by decide) f3)
  obtain ⟨v4, f4⟩ := step_mask_q8 B (execList_one B hex) (by rw [sc3.size, hsz]; decide)
  have hv : rd s2 = val := hrd s2 (fun j hj => by rw [f2.regs j (by omega), f1.regs j (by omega), hr])
    (by rw [step_movabs_op1 B _ _ _ _ _ h2, step_movq_op1 B _ _ _ _ _ h1, ho])
  exact ⟨by rw [f4.regs 6 (by decide), f3.regs 6 (by decide), f2.regs 6 (by decide), v1, hr], by omega, sc3.trans (.of_frame (by decide) f4)⟩

theorem st_body (B : BusOps β) (addr : Nat) (areg : Reg16) (r : Reg8) (g : Regs) (st s12 : St β) (hs : Sim g st)
    (hareg : (get st addr).toNat % 65536 = getReg16 g areg)
    (hex : execList B 40 (stBody addr r) st = .ok s12) :
    B.write st.bus (getReg16 g areg) (getReg g r) = .ok s12.bus ∧ Sim g s12 ∧ s12.stack = st.stack ∧ get s12 14 = get st 14 :=
  exec_write B [(0, 0), (1, 1), (2, 2)] [(37, 2), (38, 1), (39, 0)] hs rfl rfl (by decide) (by decide)
    (fun e s s2 hsz hr ho _ hex => hareg ▸ st_pre B st (rd := fun s => get8 s (hostR8 r)) (fun _ _ => rfl) (getReg g r) (getReg_lt g r)
      (fun s h _ => (get8_of_regs r h).trans (get8_sim hs r)) hsz hr ho hex) hex

/-- **LD (HL),r** (7 registers): all states, any bus — the template writes the byte the interpreter writes, where it writes it -/
theorem sim_sthl (r : Reg8) (b1 b2 : Nat) : SimulatesMem (opcodeStHl r) b1 b2 :=
  SimulatesMem.intro_write (table_sthl r b1 b2) rfl (by decide) (by decide) rfl (fun _ _ _ => rfl)
    fun B g st s1 hs _ _ hex => st_body B 1 .HL r g st s1 hs hs.hl hex

theorem table_lda (b1 b2 : Nat) :
    (decodeCode (Gen.emitOp 0x0a) = some (ldBody 3 .A ++ [(37, addIp 1), (41, addCy 2)]) ∧ bytesOf (Gen.emitOp 0x0a) = 45 ∧
      Gen.decode 0x0a b1 b2 = (.LoadFromIndirect .A .BC, 1, 8)) ∧
    (decodeCode (Gen.emitOp 0x1a) = some (ldBody 2 .A ++ [(37, addIp 1), (41, addCy 2)]) ∧ bytesOf (Gen.emitOp 0x1a) = 45 ∧
      Gen.decode 0x1a b1 b2 = (.LoadFromIndirect .A .DE, 1, 8)) ∧
    (decodeCode (Gen.emitOp 0x2a) = some ((ldBody 1 .A ++ [(37, Instr.incdec16 false 1)]) ++ [(40, addIp 1), (44, addCy 2)]) ∧ bytesOf (Gen.emitOp 0x2a) = 48 ∧
      Gen.decode 0x2a b1 b2 = (.LoadFromIndirect .A .HLIncrement, 1, 8)) ∧
    (decodeCode (Gen.emitOp 0x3a) = some ((ldBody 1 .A ++ [(37, Instr.incdec16 true 1)]) ++ [(40, addIp 1), (44, addCy 2)]) ∧ bytesOf (Gen.emitOp 0x3a) = 48 ∧
      Gen.decode 0x3a b1 b2 = (.LoadFromIndirect .A .HLDecrement, 1, 8)) :=
  ⟨⟨by decide +kernel, by decide +kernel, rfl⟩, ⟨by decide +kernel, by decide +kernel, rfl⟩, ⟨by decide +kernel, by decide +kernel, rfl⟩,
   ⟨by decide +kernel, by decide +kernel, rfl⟩⟩

/-- **LD A,(BC)** -/
theorem sim_0a (b1 b2 : Nat) : SimulatesMem 0x0a b1 b2 :=
  SimulatesMem.intro_read (table_lda b1 b2).1 rfl (by decide) (by decide) rfl (fun _ _ _ => rfl)
    fun B hB g st s1 hs _ _ hex => ld_body B hB 3 .BC .A g st s1 hs (Or.inr (Or.inr rfl)) hs.bc hex

/-- **LD A,(DE)** -/
theorem sim_1a (b1 b2 : Nat) : SimulatesMem 0x1a b1 b2 :=
  SimulatesMem.intro_read (table_lda b1 b2).2.1 rfl (by decide) (by decide) rfl (fun _ _ _ => rfl)
    fun B hB g st s1 hs _ _ hex => ld_body B hB 2 .DE .A g st s1 hs (Or.inr (Or.inl rfl)) hs.de hex

theorem sim_hl_congr {g : Regs} {s : St β} {x y : Nat} (h : Sim (setReg16 g .HL x) s) (hxy : x % 65536 = y % 65536) :
    Sim { g with hl := y } s :=
  ⟨h.af, h.hl.trans hxy, h.de, h.bc, h.sp, h.ip, h.cy, h.size⟩

/-- the interpreter's 32-bit HL+ / HL- against the host's 16-bit `inc` / `dec` -/
theorem hl_bump (x : Nat) (dec : Bool) :
    u16 (u16 x + (if dec then 65535 else 1)) % 65536 = (u32 (x + (if dec then 4294967295 else 1)) &&& 0xffff) % 65536 := by
  have e : ∀ y, u32 y &&& 0xffff = y % 4294967296 % 65536 := fun y => Nat.and_two_pow_sub_one_eq_mod _ 16
  rw [e]; unfold u16
  cases dec <;> simp only [Bool.false_eq_true, if_false, if_true] <;> omega

theorem ldx_body (B : BusOps β) (hB : ByteReads B) (dec : Bool) (g : Regs) (st s1 : St β) (hs : Sim g st)
    (hex : execList B 40 (ldBody 1 .A ++ [(37, Instr.incdec16 dec 1)]) st = .ok s1) :
    ∃ v, B.read st.bus (getReg16 g .HL) = .ok v ∧
      Sim (setReg16 (setReg g .A v) .HL (u16 (getReg16 (setReg g .A v) .HL + (if dec then 65535 else 1)))) s1 ∧ Untouched st s1 := by
  obtain ⟨s0, h0, h1⟩ := execList_append B _ _ _ st s1 hex
  obtain ⟨v, hrd, hs0, hu0⟩ := ld_body B hB 1 .HL .A g st s0 hs (Or.inl rfl) hs.hl h0
  obtain ⟨hs1, hu1⟩ := step_incdec16_sim B .HL dec hs0 (execList_one B h1)
  exact ⟨v, hrd, hs1, hu0.trans hu1⟩

/-- **LD A,(HL+)** / **LD A,(HL-)** -/
theorem sim_ldi_ldd (dec : Bool) (b1 b2 : Nat) : SimulatesMem (if dec then 0x3a else 0x2a) b1 b2 := by
  obtain ⟨_, _, hI, hD⟩ := table_lda b1 b2
  cases dec
  · exact SimulatesMem.intro_read hI rfl (by decide) (by decide) rfl (fun _ _ _ => rfl) fun B hB g st s1 hs _ _ hex =>
      have ⟨v, hrd, hs1, hu⟩ := ldx_body B hB false g st s1 hs hex
      ⟨v, hrd, sim_hl_congr hs1 (hl_bump _ false), hu⟩
  · exact SimulatesMem.intro_read hD rfl (by decide) (by decide) rfl (fun _ _ _ => rfl) fun B hB g st s1 hs _ _ hex =>
      have ⟨v, hrd, hs1, hu⟩ := ldx_body B hB true g st s1 hs hex
      ⟨v, hrd, sim_hl_congr hs1 (hl_bump _ true), hu⟩

/-- the rows of LD (BC),A / LD (DE),A / LD (HL+),A / LD (HL-),A; the last is used by `sim_std` in X86SimMemDec.lean -/
theorem table_sta (b1 b2 : Nat) :
    (decodeCode (Gen.emitOp 0x02) = some (stBody 3 .A ++ [(40, addIp 1), (44, addCy 2)]) ∧ bytesOf (Gen.emitOp 0x02) = 48 ∧
      Gen.decode 0x02 b1 b2 = (.LoadToIndirect .BC .A, 1, 8)) ∧
    (decodeCode (Gen.emitOp 0x12) = some (stBody 2 .A ++ [(40, addIp 1), (44, addCy 2)]) ∧ bytesOf (Gen.emitOp 0x12) = 48 ∧
      Gen.decode 0x12 b1 b2 = (.LoadToIndirect .DE .A, 1, 8)) ∧
    (decodeCode (Gen.emitOp 0x22) = some ((stBody 1 .A ++ [(40, Instr.incdec16 false 1)]) ++ [(43, addIp 1), (47, addCy 2)]) ∧ bytesOf (Gen.emitOp 0x22) = 51 ∧
      Gen.decode 0x22 b1 b2 = (.LoadToIndirect .HLIncrement .A, 1, 8)) ∧
    (decodeCode (Gen.emitOp 0x32) = some ((stBody 1 .A ++ [(40, Instr.incdec16 true 1)]) ++ [(43, addIp 1), (47, addCy 2)]) ∧ bytesOf (Gen.emitOp 0x32) = 51 ∧
      Gen.decode 0x32 b1 b2 = (.LoadToIndirect .HLDecrement .A, 1, 8)) :=
  ⟨⟨by decide +kernel, by decide +kernel, rfl⟩, ⟨by decide +kernel, by decide +kernel, rfl⟩, ⟨by decide +kernel, by decide +kernel, rfl⟩,
   ⟨by decide +kernel, by decide +kernel, rfl⟩⟩

/-- **LD (BC),A** / **LD (DE),A** -/
theorem sim_st_a (de : Bool) (b1 b2 : Nat) : SimulatesMem (if de then 0x12 else 0x02) b1 b2 := by
  obtain ⟨hB, hD, _⟩ := table_sta b1 b2
  cases de
  · exact SimulatesMem.intro_write hB rfl (by decide) (by decide) rfl (fun _ _ _ => rfl)
      fun B g st s1 hs _ _ hex => st_body B 3 .BC .A g st s1 hs hs.bc hex
  · exact SimulatesMem.intro_write hD rfl (by decide) (by decide) rfl (fun _ _ _ => rfl)
      fun B g st s1 hs _ _ hex => st_body B 2 .DE .A g st s1 hs hs.de hex

theorem stx_body (B : BusOps β) (dec : Bool) (g : Regs) (st s1 : St β) (hs : Sim g st)
    (hex : execList B 43 (stBody 1 .A ++ [(40, Instr.incdec16 dec 1)]) st = .ok s1) :
    B.write st.bus (getReg16 g .HL) (getReg g .A) = .ok s1.bus ∧
      Sim (setReg16 g .HL (u16 (getReg16 g .HL + (if dec then 65535 else 1)))) s1 ∧ s1.stack = st.stack ∧ get s1 14 = get st 14 := by
  obtain ⟨s0, h0, h1⟩ := execList_append B _ _ _ st s1 hex
  obtain ⟨hwr, hs0, hk0, h14⟩ := st_body B 1 .HL .A g st s0 hs hs.hl h0
  obtain ⟨hs1, hu1⟩ := step_incdec16_sim B .HL dec hs0 (execList_one B h1)
  exact ⟨hu1.bus ▸ hwr, hs1, hu1.stack.trans hk0, hu1.r14.trans h14⟩

/-- **LD (HL+),A** -/
theorem sim_sti (b1 b2 : Nat) : SimulatesMem 0x22 b1 b2 :=
  SimulatesMem.intro_write (table_sta b1 b2).2.2.1 rfl (by decide) (by decide) rfl (fun _ _ _ => rfl)
    fun B g st s1 hs _ _ hex =>
      have ⟨hwr, hs1, hk⟩ := stx_body B false g st s1 hs hex
      ⟨hwr, sim_hl_congr hs1 (hl_bump _ false), hk⟩

end GbVerif.X86
