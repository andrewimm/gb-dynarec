import GbVerif.Proofs.Sm83Cls1
import GbVerif.Proofs.Sm83Cls2
import GbVerif.Proofs.Sm83Cls3
/-! Refinement of the unprefixed opcodes 0x40..0x7F (one goal per first byte, operand bytes symbolic). -/
namespace GbVerif.C05
open GbVerif.Interp GbVerif.Enum

theorem main_1 {β : Type} {B : BusOps β} (hB : ByteBus B) : PTree (Goal B) 6 64 := by
  simp only [PTree]
  repeat' constructor
  all_goals (
    intro b1 b2 hb1 hb2 h1 h2
    conv => arg 2; whnf
    first
    | exact op_ld_rr _ _
    | exact op_ld_r_hl hB _
    | (guard_target = OpRel _ (Op.LoadToIndirect _ _) _ _ _; exact op_writeR (fun _ _ => rfl) (fun _ k hc => getReg_conc hc k _))
    | exact op_id (fun _ _ => rfl))

end GbVerif.C05
