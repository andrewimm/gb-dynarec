import GbVerif.Model.Timer
import GbVerif.Proofs.TimerBits
/-!
Timer model, part 1: the deferred `&= 0xffff`, the per-clock normal form of `run_cycles`, batching.

`run n s` (the code: fast path when disabled, unmasked loop + one final mask when enabled) is shown equal to
`n` iterations of one *normalised* clock `clock`, provided `timer_clock_mask < 2^16` (part of the
invariant).  Batching invariance `run (a+b) = run b ∘ run a` follows.
-/
namespace GbVerif

/-- Batching: a run that threads a state through `n` steps and combines their outputs with an associative `op`
(unit `e`) can be cut anywhere.  Used for the timer (`Bool`, `||`) and the LCD (`Nat` flags, `|||`). -/
theorem run_add_of_step {σ φ : Type} (op : φ → φ → φ) (e : φ) (run : Nat → σ → σ × φ) (step : σ → σ × φ)
    (h0 : ∀ s, run 0 s = (s, e))
    (hs : ∀ n s, run (n + 1) s = ((run n (step s).1).1, op (step s).2 (run n (step s).1).2))
    (assoc : ∀ a b c, op (op a b) c = op a (op b c)) (unit : ∀ a, op e a = a) :
    ∀ (a b : Nat) (s : σ), run (a + b) s = ((run b (run a s).1).1, op (run a s).2 (run b (run a s).1).2)
  | 0, b, s => by rw [Nat.zero_add, h0, unit]
  | a + 1, b, s => by rw [Nat.add_right_comm, hs, hs, run_add_of_step op e run step h0 hs assoc unit a b, assoc]

end GbVerif

namespace GbVerif.Timer
open GbVerif.TimerBits

/-- what the final `cycle_count &= 0xffff` does -/
def norm (s : State) : State := { s with cycleCount := s.cycleCount % 65536 }

/-- one clock in normal form: what `run 1` does -/
def clock (s : State) : State × Bool :=
  if s.enabledMask == 0 then ({ s with cycleCount := (s.cycleCount + 1) % 65536 }, false)
  else let r := tick s; (norm r.1, r.2)

def clocks : Nat → State → State × Bool
  | 0, s => (s, false)
  | n + 1, s => let r := clock s; let q := clocks n r.1; (q.1, r.2 || q.2)

def seq (r : State × Bool) (g : State → State × Bool) : State × Bool := ((g r.1).1, r.2 || (g r.1).2)

/-! ### frame: what `incrementCounter`, `tick`, `clock`, `run` leave alone -/

theorem incrementCounter_frame (s : State) :
    (incrementCounter s).1.cycleCount = s.cycleCount ∧ (incrementCounter s).1.modulo = s.modulo ∧
    (incrementCounter s).1.enabledMask = s.enabledMask ∧ (incrementCounter s).1.timerClockMask = s.timerClockMask ∧
    (incrementCounter s).1.controlValue = s.controlValue := by
  unfold incrementCounter; split <;> simp

theorem incrementCounter_cc (s : State) (c : Nat) :
    incrementCounter { s with cycleCount := c } =
      ({ (incrementCounter s).1 with cycleCount := c }, (incrementCounter s).2) := by
  unfold incrementCounter; split <;> rfl

theorem norm_incrementCounter (s : State) :
    norm (incrementCounter s).1 = (incrementCounter (norm s)).1 ∧ (incrementCounter s).2 = (incrementCounter (norm s)).2 := by
  unfold incrementCounter norm; split <;> simp_all

theorem tick_eq (s : State) : tick s =
    if (s.cycleCount &&& s.timerClockMask != 0 && (s.cycleCount + 1) &&& s.timerClockMask == 0) = true
    then incrementCounter { s with cycleCount := s.cycleCount + 1 }
    else ({ s with cycleCount := s.cycleCount + 1 }, false) := rfl

theorem tick_frame (s : State) :
    (tick s).1.cycleCount = s.cycleCount + 1 ∧ (tick s).1.modulo = s.modulo ∧
    (tick s).1.enabledMask = s.enabledMask ∧ (tick s).1.timerClockMask = s.timerClockMask ∧
    (tick s).1.controlValue = s.controlValue := by
  rw [tick_eq]
  split
  · have := incrementCounter_frame { s with cycleCount := s.cycleCount + 1 }
    simpa using this
  · simp

theorem clock_frame (s : State) :
    (clock s).1.cycleCount = (s.cycleCount + 1) % 65536 ∧ (clock s).1.modulo = s.modulo ∧
    (clock s).1.enabledMask = s.enabledMask ∧ (clock s).1.timerClockMask = s.timerClockMask ∧
    (clock s).1.controlValue = s.controlValue := by
  unfold clock
  split
  · simp
  · have := tick_frame s
    simp [norm, this]

theorem clocks_frame : ∀ (n : Nat) (s : State),
    (s.cycleCount < 65536 → (clocks n s).1.cycleCount = (s.cycleCount + n) % 65536) ∧
    (clocks n s).1.modulo = s.modulo ∧
    (clocks n s).1.enabledMask = s.enabledMask ∧ (clocks n s).1.timerClockMask = s.timerClockMask ∧
    (clocks n s).1.controlValue = s.controlValue
  | 0, s => by
    simp only [clocks, Nat.add_zero, and_self, and_true]
    intro h; exact (Nat.mod_eq_of_lt h).symm
  | n + 1, s => by
    have h1 := clock_frame s
    have h2 := clocks_frame n (clock s).1
    simp only [clocks]
    refine ⟨?_, by rw [h2.2.1, h1.2.1], by rw [h2.2.2.1, h1.2.2.1], by rw [h2.2.2.2.1, h1.2.2.2.1],
      by rw [h2.2.2.2.2, h1.2.2.2.2]⟩
    intro _
    rw [h2.1 (by rw [h1.1]; exact Nat.mod_lt _ (by decide)), h1.1]
    omega

/-! ### the deferred mask is unobservable -/

/-- a loop trip only looks at `cycle_count` through `& timer_clock_mask` -/
theorem tick_norm (s : State) (hm : s.timerClockMask < 65536) :
    norm (tick (norm s)).1 = norm (tick s).1 ∧ (tick (norm s)).2 = (tick s).2 := by
  have e1 : (s.cycleCount % 65536) &&& s.timerClockMask = s.cycleCount &&& s.timerClockMask :=
    and_mod16 _ _ hm
  have e2 : (s.cycleCount % 65536 + 1) &&& s.timerClockMask = (s.cycleCount + 1) &&& s.timerClockMask := by
    rw [← and_mod16 (s.cycleCount % 65536 + 1) _ hm, ← and_mod16 (s.cycleCount + 1) _ hm]
    congr 1; omega
  have e3 : (s.cycleCount % 65536 + 1) % 65536 = (s.cycleCount + 1) % 65536 := by omega
  rw [tick_eq, tick_eq]
  simp only [norm, e1, e2]
  split
  · rw [incrementCounter_cc s (s.cycleCount % 65536 + 1), incrementCounter_cc s (s.cycleCount + 1)]
    simp [e3]
  · simp [e3]

/-- while enabled, the unmasked loop followed by one mask is `n` normalised clocks -/
theorem loop_norm : ∀ (n : Nat) (s : State) (f : Bool), s.timerClockMask < 65536 → (s.enabledMask == 0) = false →
    norm (loop n s f).1 = (clocks n (norm s)).1 ∧ (loop n s f).2 = (f || (clocks n (norm s)).2)
  | 0, s, f, _, _ => by simp [loop, clocks]
  | n + 1, s, f, hm, he => by
    have ht := tick_norm s hm
    have hf := tick_frame s
    have hc : clock (norm s) = (norm (tick (norm s)).1, (tick (norm s)).2) := by
      unfold clock; rw [show (norm s).enabledMask = s.enabledMask from rfl, he]; rfl
    have ih := loop_norm n (tick s).1 (f || (tick s).2) (by rw [hf.2.2.2.1]; exact hm) (by rw [hf.2.2.1]; exact he)
    simp only [loop, clocks, hc]
    rw [ih.1, ih.2, ht.1, ht.2, Bool.or_assoc]
    exact ⟨rfl, rfl⟩

theorem clocks_disabled : ∀ (n : Nat) (s : State), (s.enabledMask == 0) = true → s.cycleCount < 65536 →
    clocks n s = ({ s with cycleCount := (s.cycleCount + n) % 65536 }, false)
  | 0, s, _, hc => by simp [clocks, Nat.mod_eq_of_lt hc]
  | n + 1, s, h, hc => by
    have hck : clock s = ({ s with cycleCount := (s.cycleCount + 1) % 65536 }, false) := by
      unfold clock; rw [h]; rfl
    simp only [clocks, hck]
    rw [clocks_disabled n { s with cycleCount := (s.cycleCount + 1) % 65536 } h (Nat.mod_lt _ (by decide))]
    simp only [Bool.or_false, Prod.mk.injEq, and_true]
    congr 1
    omega

/-- `run_cycles` is `cycles` normalised clocks from the normalised state -/
theorem run_eq_clocks (n : Nat) (s : State) (hm : s.timerClockMask < 65536) :
    run n s = clocks n (norm s) := by
  unfold run
  split
  · rename_i h
    rw [clocks_disabled n (norm s) h (Nat.mod_lt _ (by decide))]
    simp only [norm, and_ffff, Prod.mk.injEq, and_true]
    congr 1
    omega
  · rename_i h
    have := loop_norm n s false hm (by simpa using h)
    simp only [and_ffff]
    apply Prod.ext
    · exact this.1
    · simpa using this.2

theorem norm_of_lt (s : State) (h : s.cycleCount < 65536) : norm s = s := by
  simp [norm, Nat.mod_eq_of_lt h]

theorem run_cc_lt (n : Nat) (s : State) : (run n s).1.cycleCount < 65536 := by
  unfold run
  split <;> simp only [and_ffff] <;> exact Nat.mod_lt _ (by decide)

theorem run_frame (n : Nat) (s : State) (hm : s.timerClockMask < 65536) :
    (run n s).1.cycleCount = (s.cycleCount + n) % 65536 ∧ (run n s).1.modulo = s.modulo ∧
    (run n s).1.enabledMask = s.enabledMask ∧ (run n s).1.timerClockMask = s.timerClockMask ∧
    (run n s).1.controlValue = s.controlValue := by
  rw [run_eq_clocks n s hm]
  have := clocks_frame n (norm s)
  refine ⟨?_, this.2⟩
  rw [this.1 (Nat.mod_lt _ (by decide))]
  simp only [norm]
  omega

theorem clocks_add (a b : Nat) (s : State) : clocks (a + b) s = seq (clocks a s) (clocks b) :=
  run_add_of_step (· || ·) false clocks clock (fun _ => rfl) (fun _ _ => rfl) Bool.or_assoc Bool.false_or a b s

/-- Batching invariance of `run_cycles`: one batch of `a + b` clocks = a batch of `a` then a batch of `b`
(state equal, returned flags OR-ed), for every state whose clock mask fits in 16 bits, every `a`, `b`. -/
theorem run_add (a b : Nat) (s : State) (hm : s.timerClockMask < 65536) :
    run (a + b) s = seq (run a s) (run b) := by
  have hm' : (run a s).1.timerClockMask < 65536 := by rw [(run_frame a s hm).2.2.2.1]; exact hm
  unfold seq
  rw [run_eq_clocks (a + b) s hm, run_eq_clocks b _ hm', norm_of_lt _ (run_cc_lt a s), run_eq_clocks a s hm,
    clocks_add]
  rfl

end GbVerif.Timer
