import GbVerif.Proofs.X86SimMem
/-
C01, the bus side: LD (HL-),A (0x32), proved as LD (HL+),A is (`sim_sti` in X86SimMem.lean) with `dec` for `inc`.  The
interpreter's decrement is `+ 4294967295` on a 32-bit value.  The register file after its step stays the interpreter's own
term (`hop` is `rfl`), and is compared with the host's 16-bit `dec` by arithmetic only: the two agree modulo 2^16 (`hl_bump`)
and `Sim` reads HL modulo 2^16 (`sim_hl_congr`; both in X86SimMem.lean, where LD A,(HL-) needs them too).  Identifying the two
terms by unfolding instead sends Lean into `Nat.add _ 4294967295`.
-/
namespace GbVerif.X86
open GbVerif.JitCycles GbVerif.Interp
variable {β : Type}

theorem runOp_st_loc (B : BusOps β) (loc : Indirect) (g : Regs) (m : β) :
    runOp B (.LoadToIndirect loc .A) g m 1 = (do
      let m ← B.write m (getReg16 g (indirectReg loc)) (getReg g .A)
      let r := match loc with
        | .HLIncrement => { g with hl := u32 (g.hl + 1) &&& 0xffff }
        | .HLDecrement => { g with hl := u32 (g.hl + 4294967295) &&& 0xffff }
        | _ => g
      .ok (advance r 1, m, STATUS_NORMAL)) := by
  cases loc <;> rfl

/-- **LD (HL-),A** -/
theorem sim_std (b1 b2 : Nat) : SimulatesMem 0x32 b1 b2 :=
  SimulatesMem.intro_write (table_sta b1 b2).2.2.2 rfl (by decide) (by decide) rfl (fun _ _ _ => rfl)
    fun B g st s1 hs _ _ hex =>
      have ⟨hwr, hs1, hk⟩ := stx_body B true g st s1 hs hex
      ⟨hwr, sim_hl_congr hs1 (hl_bump _ true), hk⟩

end GbVerif.X86
