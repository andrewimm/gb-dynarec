import GbVerif.Proofs.X86SimMoves
/-
C01, the data side, the first block terminators: JP nn (`mov r13w, imm16 ; add r15, 4`) and JP HL (`mov r13w, cx ;
add r15, 1`).  No `add r13, len`: the template loads the guest PC.
-/
namespace GbVerif.X86
open GbVerif.JitCycles GbVerif.Interp
variable {β : Type}

/-- `Simulates` for templates of the shape `body ; add r15, c` whose body loads the guest PC itself -/
theorem Simulates.intro_jump {b0 b1 b2 : Nat} {body : List (Nat × Instr)} {o2 e n c k : Nat} {op : Op}
    (htab : decodeCode (Gen.emitOp b0) = some (body ++ [(o2, addCy c)]) ∧ bytesOf (Gen.emitOp b0) = e ∧
      Gen.decode b0 b1 b2 = (op, n, k))
    (hnj : noJump body = true) (hc : c < 128) (hk : k / 4 = c)
    (hbody : ∀ {β : Type} (B : BusOps β) (g : Regs) (st s1 : St β), Sim g st → st.op1 = b1 → st.op2 = b2 →
      execList B o2 body st = .ok s1 →
      ∃ g1, (∀ m, runOp B op g m n = .ok (g1, m, STATUS_NORMAL)) ∧ Sim g1 s1 ∧ Untouched st s1) :
    Simulates b0 b1 b2 := by
  obtain ⟨hdec, _, hop⟩ := htab
  obtain ⟨hok, h0⟩ := decodeCode_codeOk hdec
  refine ⟨_, hdec, fun β B g m fuel st st' hsim hpc h1 h2 hr => ?_⟩
  obtain ⟨s1, hex, hu, htail⟩ := run_body_cy B hok (straight_of_noJump hnj) hc (hpc.trans h0.symm) hr
  obtain ⟨g1, hi, hs1, hu1⟩ := hbody B g st s1 hsim h1 h2 hex
  rw [hop]
  exact ⟨_, hi m, hk ▸ htail g1 hs1, hu1.trans hu⟩

theorem table_jp (b1 b2 : Nat) :
    decodeCode (Gen.emitOp 0xc3) = some [(0, Instr.movi16 13 [256, 257]), (5, addCy 4)] ∧ bytesOf (Gen.emitOp 0xc3) = 9 ∧
    Gen.decode 0xc3 b1 b2 = (.Jump .Always (b1 + 256 * b2), 3, 16) ∧
    decodeCode (Gen.emitOp 0xe9) = some [(0, Instr.mov Size.w 13 1), (4, addCy 1)] ∧ bytesOf (Gen.emitOp 0xe9) = 8 ∧
    Gen.decode 0xe9 b1 b2 = (.JumpHL, 1, 4) :=
  ⟨by decide +kernel, by decide +kernel, rfl, by decide +kernel, by decide +kernel, rfl⟩

/-- **JP nn**: all states, every operand -/
theorem sim_jp (b1 b2 : Nat) : Simulates 0xc3 b1 b2 :=
  have ⟨hdec, hbytes, hop, _⟩ := table_jp b1 b2
  Simulates.intro_jump ⟨hdec, hbytes, hop⟩ rfl (by decide) rfl fun B g st _ hs h1 h2 hex =>
    ⟨_, fun _ => rfl, step_dest_sim B 13 (b1 + 256 * b2) hs (execList_one B hex) rfl rfl (by decide)
      (h1 ▸ h2 ▸ step_movi16_ops B 13 (hs.size ▸ (by decide)) (execList_one B hex))⟩

/-- **JP HL**: all states -/
theorem sim_jphl (b1 b2 : Nat) : Simulates 0xe9 b1 b2 :=
  have ⟨_, _, _, hdec, hbytes, hop⟩ := table_jp b1 b2
  Simulates.intro_jump ⟨hdec, hbytes, hop⟩ rfl (by decide) rfl fun B g st _ hs _ _ hex =>
    ⟨_, fun _ => rfl, step_dest_sim B 13 (getReg16 g .HL) hs (execList_one B hex) rfl rfl (by decide)
      (getReg16_sim hs .HL ▸ step_movw B 13 1 (hs.size ▸ (by decide)) (execList_one B hex))⟩

end GbVerif.X86
