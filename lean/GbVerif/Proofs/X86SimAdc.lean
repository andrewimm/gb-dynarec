import GbVerif.Proofs.X86SimAlu2
/-
C01, the data side: ADC / SBC on A (register and immediate operand).  The guest carry is moved into the host's CF by
`and al, 0x10 ; add al, 0xf0` (which destroys al: the conversion then rebuilds F from scratch, so F's low nibble ends
clear — as it is in every register file the machine reaches).  `SimulatesF` is `Simulates` from such register files.
-/
namespace GbVerif.X86
open GbVerif.JitCycles GbVerif.Interp
variable {β : Type}

/-- the operand of an A-operation does not depend on al -/
def RdStable (rd : St β → Nat) : Prop :=
  ∀ s s' : St β, (∀ j, 0 ≠ j → get s' j = get s j) → (get s' 0).toNat / 256 % 256 = (get s 0).toNat / 256 % 256 →
    s'.op1 = s.op1 → rd s' = rd s

theorem rdStable_reg (r : Reg8) : RdStable (β := β) (fun s => get8 s (hostR8 r)) := by
  intro s s' hj h0 _
  cases r <;> simp only [hostR8, get8]
  · exact h0
  · rw [hj 3 (by decide)]
  · rw [hj 3 (by decide)]
  · rw [hj 2 (by decide)]
  · rw [hj 2 (by decide)]
  · rw [hj 1 (by decide)]
  · rw [hj 1 (by decide)]

theorem rdStable_imm : RdStable (β := β) (fun s => s.op1) := fun _ _ _ _ h => h

theorem and_16 (x : Nat) (hx : x < 256) : x &&& 16 = 0 ∨ x &&& 16 = 16 :=
  of_decide_eq_true (Enum.forall_lt_of_allRange (fun x => decide (x &&& 16 = 0 ∨ x &&& 16 = 16)) 8 (by decide +kernel) x hx)

theorem and10_mod (af : Nat) : af &&& 0x10 = (af % 256) &&& 16 := by
  have hlt : af &&& 0x10 < 2 ^ 8 := Nat.lt_of_le_of_lt Nat.and_le_right (by decide)
  rw [← Nat.mod_eq_of_lt hlt, Nat.and_mod_two_pow]

theorem carryIn_eq (af : Nat) : carryIn af = if decide ((af % 256 &&& 16) + 240 + 0 ≥ 256) then 1 else 0 := by
  unfold carryIn
  rw [and10_mod]
  rcases and_16 (af % 256) (Nat.mod_lt _ (by decide)) with h | h <;> rw [h] <;> decide

/-- the carry preamble: the host carry becomes the guest's; the state stays related to `g` up to the F the preamble leaves
(low nibble clear) -/
theorem pre_carry_sim (B : BusOps β) (oa ob e : Nat) {g : Regs} {st s2 : St β} (hs : Sim g st)
    (hex : execList B e [(oa, .alu8i .and (.lo 0) 16), (ob, .alu8i .add (.lo 0) 240)] st = .ok s2) :
    Sim ({ g with af := (get s2 0).toNat } : Regs) s2 ∧ (get s2 0).toNat / 256 % 256 = g.af / 256 % 256 ∧
    (get s2 0).toNat % 256 &&& 15 = 0 ∧ s2.fl.cf = decide ((g.af % 256 &&& 16) + 240 + 0 ≥ 256) ∧ Untouched st s2 ∧
    ∀ rd, RdStable rd → rd s2 = rd st := by
  obtain ⟨s1, h1, hex⟩ := execList_cons B _ _ _ _ _ _ hex
  obtain ⟨s3, h2, hex⟩ := execList_cons B _ _ _ _ _ _ hex
  cases execList_nil B _ _ _ hex
  have hAg : getReg g .A = g.af / 256 % 256 := getHi_eq _
  have hx := hs.af.trans (af_split g)
  obtain ⟨x1, _, r1, b1, k1, z1, o1⟩ := step_al8 B (op := .and) rfl (by decide) hs.size (Nat.mod_lt _ (by decide)) hx h1
  rw [show (aluOp .and 8 (g.af % 256) 16 st.fl).1 = g.af % 256 &&& 16 from rfl] at x1
  obtain ⟨x2, f2, r2, b2, k2, z2, o2⟩ := step_al8 B (op := .add) rfl (by decide) z1 (Nat.mod_lt _ (by decide)) x1 h2
  -- al is 0x00 or 0x10 after the `and`, so 0xf0, or 0x00 with carry, after the `add`
  have key : ∃ f, (get s2 0).toNat % 65536 = getReg g .A * 256 + f ∧ f < 256 ∧ f &&& 15 = 0 ∧
      s2.fl.cf = decide ((g.af % 256 &&& 16) + 240 + 0 ≥ 256) := by
    rcases and_16 (g.af % 256) (Nat.mod_lt _ (by decide)) with h | h <;> rw [h] at x2 f2 ⊢
    · exact ⟨240, x2, by decide, rfl, congrArg Flags.cf f2⟩
    · exact ⟨0, x2, by decide, rfl, congrArg Flags.cf f2⟩
  obtain ⟨f, x2, hf, hlo, hcf⟩ := key
  obtain ⟨hi2, lo2⟩ := bytes_of_low16 hf x2
  have hr : ∀ j, 0 ≠ j → get s2 j = get st j := fun j hj => (r2 j hj).trans (r1 j hj)
  exact ⟨sim_af0 hs hr z2 ⟨rfl, rfl, rfl, rfl, rfl, rfl⟩ rfl, hi2.trans hAg, lo2 ▸ hlo, hcf,
    untouched_of_frame hr (b2.trans b1) (k2.trans k1),
    fun rd h => h st s2 hr (hi2.trans (bytes_of_low16 (Nat.mod_lt _ (by decide)) hx).1.symm) (o2.trans o1)⟩

theorem carryIn_le (af : Nat) : carryIn af ≤ 1 := by unfold carryIn; split <;> omega

theorem conv_carryAdc (a v af : Nat) (fl : Flags) (hc : (if fl.cf then 1 else 0) = carryIn af) :
    (aluOp .adc 8 a v fl).1 = (carryAdc a v af).1 ∧
    conv (aluOp .adc 8 a v fl).2 = (if (carryAdc a v af).1 == 0 then 0x80 else 0) + (if (carryAdc a v af).2.2 then 0x20 else 0) +
      (if (carryAdc a v af).2.1 then 0x10 else 0) := by
  have h2 : (carryAdc a v af).2.2 = decide (a % 16 + v % 16 + carryIn af ≥ 16) := halfAdd_eq a v (carryIn af) (carryIn_le af)
  have h3 : (carryAdc a v af).2.1 = decide (a + v + carryIn af ≥ 256) := by
    show (decide (a + v > 255) || decide (u8 (a + v) + carryIn af > 255)) = _
    rw [Bool.eq_iff_iff]
    simp only [decide_eq_true_eq, Bool.or_eq_true]
    unfold u8
    omega
  rw [h2, h3]
  show (a + v + (if fl.cf then 1 else 0)) % 2 ^ 8 = _ ∧
    conv ⟨decide (a + v + (if fl.cf then 1 else 0) ≥ 2 ^ 8), _, decide (a % 16 + v % 16 + (if fl.cf then 1 else 0) ≥ 16),
      (a + v + (if fl.cf then 1 else 0)) % 2 ^ 8 == 0, _, _⟩ = _
  rw [hc]
  exact ⟨rfl, rfl⟩

theorem conv_carrySbc (a v af : Nat) (ha : a < 256) (hv : v < 256) (fl : Flags) (hc : (if fl.cf then 1 else 0) = carryIn af) :
    (aluOp .sbb 8 a v fl).1 = (carrySbc a v af).1 ∧
    conv (aluOp .sbb 8 a v fl).2 = (if (carrySbc a v af).1 == 0 then 0x80 else 0) + (if (carrySbc a v af).2.2 then 0x20 else 0) +
      (if (carrySbc a v af).2.1 then 0x10 else 0) := by
  have hce := carryIn_le af
  have h2 : (carrySbc a v af).2.2 = decide (a % 16 < v % 16 + carryIn af) := halfSub_eq a v (carryIn af) hce
  have h3 : (carrySbc a v af).2.1 = decide (a < v + carryIn af) := by
    show (decide (a < v) || decide (u8 (a + 256 - v) < carryIn af)) = _
    rw [Bool.eq_iff_iff]
    simp only [decide_eq_true_eq, Bool.or_eq_true]
    unfold u8
    omega
  have h1 : (carrySbc a v af).1 = (a + 256 + 256 - v - carryIn af) % 256 := by
    show u8 (u8 (a + 256 - v) + 256 - carryIn af) = _
    unfold u8; omega
  rw [h1, h2, h3]
  show (a + 2 ^ 8 + 2 ^ 8 - v - (if fl.cf then 1 else 0)) % 2 ^ 8 = _ ∧
    conv ⟨decide (a < v + (if fl.cf then 1 else 0)), _, decide (a % 16 < v % 16 + (if fl.cf then 1 else 0)),
      (a + 2 ^ 8 + 2 ^ 8 - v - (if fl.cf then 1 else 0)) % 2 ^ 8 == 0, _, _⟩ = _
  rw [hc]
  exact ⟨rfl, rfl⟩

theorem setA_pre {g : Regs} {af' x : Nat} (hx : x < 256) (hlo : af' % 256 &&& 15 = 0) (h0 : g.af % 16 = 0) :
    getReg (setReg g .A x) .A = getReg (setReg { g with af := af' } .A x) .A ∧
    (setReg { g with af := af' } .A x).af % 256 &&& 15 = (setReg g .A x).af % 256 &&& 0x0f := by
  refine ⟨(getReg_setReg_self _ _ _ hx).trans (getReg_setReg_self _ _ _ hx).symm, ?_⟩
  rw [af_setReg_lo, af_setReg_lo]
  exact hlo.trans (by rw [and_0f]; omega)

theorem adc_body (B : BusOps β) (ins : Instr) (rd : St β → Nat) (hins : IsAOp B .adc ins rd) (hrd : RdStable rd) (v : Nat) (hvlt : v < 256)
    (oa ob : Nat) (o : Nat → Nat) (e : Nat) (g : Regs) (st s3 : St β) (hs : Sim g st) (h0 : g.af % 16 = 0) (hv : rd st = v)
    (hex : execList B e ([(oa, .alu8i .and (.lo 0) 16), (ob, .alu8i .add (.lo 0) 240)] ++ ((o 0, ins) :: pipeAt o 15 240)) st = .ok s3) :
    Sim (opAdc g v) s3 ∧ Untouched st s3 := by
  obtain ⟨s2, hpre, hex2⟩ := execList_append B e _ _ st s3 hex
  obtain ⟨hs2, hA, hlo, hcf, hu2, hrd2⟩ := pre_carry_sim B oa ob _ hs hpre
  obtain ⟨s1, h1, hex3⟩ := execList_cons B _ _ _ _ _ _ hex2
  obtain ⟨hs1', hu1, hfl⟩ := step_aop_sim B hins hs2 ((hrd2 rd hrd).trans hv) (Nat.mod_lt _ (by decide)) h1
  obtain ⟨hx, hcv⟩ := conv_carryAdc (getReg g .A) v g.af s2.fl (by rw [hcf, carryIn_eq])
  rw [getReg_af g _ .A hA, hx] at hs1'
  rw [getReg_af g _ .A hA] at hfl
  have hs1 : Sim (setReg { g with af := (get s2 0).toNat } .A (carryAdc (getReg g .A) v g.af).1) s1 := hs1'
  obtain ⟨eA, eF⟩ := setA_pre (g := g) (x := (carryAdc (getReg g .A) v g.af).1) (Nat.mod_lt _ (by decide)) hlo h0
  have haf := flagsAdd_af (setReg g .A (carryAdc (getReg g .A) v g.af).1) (carryAdc (getReg g .A) v g.af)
  rw [eA] at haf
  have ⟨q1, q2⟩ := pipe_tail_sim B (keep := 15) (take := 240) (s3 := s3) (by decide) (by decide) o (alTail_nil B e) hs1
    (SameButAf.trans ⟨rfl, rfl, rfl, rfl, rfl, rfl⟩ (sameButAf_flagsAdd (setReg g .A _) _)) haf
    (by rw [eF, hfl, hcv]; exact fAdd_eq _ _ _ _) (by rw [List.append_nil]; exact hex3)
  exact ⟨q1, (hu2.trans hu1).trans q2⟩

theorem sbc_body (B : BusOps β) (ins : Instr) (rd : St β → Nat) (hins : IsAOp B .sbb ins rd) (hrd : RdStable rd) (v : Nat) (hvlt : v < 256)
    (oa ob : Nat) (o : Nat → Nat) (e : Nat) (g : Regs) (st s4 : St β) (hs : Sim g st) (h0 : g.af % 16 = 0) (hv : rd st = v)
    (hex : execList B e (([(oa, .alu8i .and (.lo 0) 16), (ob, .alu8i .add (.lo 0) 240)] ++ ((o 0, ins) :: pipeAt o 15 240)) ++
      [(o 10, .alu8i .or (.lo 0) 64)]) st = .ok s4) :
    Sim (opSbc g v) s4 ∧ Untouched st s4 := by
  rw [List.append_assoc] at hex
  obtain ⟨s2, hpre, hex2⟩ := execList_append B e _ _ st s4 hex
  obtain ⟨hs2, hA, hlo, hcf, hu2, hrd2⟩ := pre_carry_sim B oa ob _ hs hpre
  rw [List.cons_append] at hex2
  obtain ⟨s1, h1, hex3⟩ := execList_cons B _ _ _ _ _ _ hex2
  obtain ⟨hs1', hu1, hfl⟩ := step_aop_sim B hins hs2 ((hrd2 rd hrd).trans hv) (Nat.mod_lt _ (by decide)) h1
  obtain ⟨hx, hcv⟩ := conv_carrySbc (getReg g .A) v g.af (getReg_lt g .A) hvlt s2.fl (by rw [hcf, carryIn_eq])
  rw [getReg_af g _ .A hA, hx] at hs1'
  rw [getReg_af g _ .A hA] at hfl
  have hs1 : Sim (setReg { g with af := (get s2 0).toNat } .A (carrySbc (getReg g .A) v g.af).1) s1 := hs1'
  obtain ⟨eA, eF⟩ := setA_pre (g := g) (x := (carrySbc (getReg g .A) v g.af).1) (Nat.mod_lt _ (by decide)) hlo h0
  have haf := flagsSub_af (setReg g .A (carrySbc (getReg g .A) v g.af).1) (carrySbc (getReg g .A) v g.af)
  rw [eA] at haf
  have ⟨q1, q2⟩ := pipe_al_sim B .or (Or.inr (Or.inl rfl)) 15 240 64 (by decide) (by decide) (by decide) o e hs1
    (SameButAf.trans ⟨rfl, rfl, rfl, rfl, rfl, rfl⟩ (sameButAf_flagsSub (setReg g .A _) _)) haf
    (by rw [eF, hfl, hcv]; exact fSub_eq _ _ _ _) hex3
  exact ⟨q1, (hu2.trans hu1).trans q2⟩

/-- `Simulates` from the register files whose F has a clear low nibble (`g.af % 16 = 0`); of the nibble afterwards nothing is
said -/
def SimulatesF (b0 b1 b2 : Nat) : Prop :=
  ∃ code, decodeCode (Gen.emitOp b0) = some code ∧
  ∀ (β : Type) (B : BusOps β) (g : Regs) (m : β) (fuel : Nat) (st st' : St β), Sim g st → g.af % 16 = 0 → st.pc = 0 → st.op1 = b1 → st.op2 = b2 →
    run B code (bytesOf (Gen.emitOp b0)) fuel st = .ok st' →
    ∃ g', runOp B (Gen.decode b0 b1 b2).1 g m (Gen.decode b0 b1 b2).2.1 = .ok (g', m, STATUS_NORMAL) ∧
      Sim { g' with cycles := g'.cycles + (Gen.decode b0 b1 b2).2.2 / 4 } st' ∧ Untouched st st'

theorem SimulatesF.intro {b0 b1 b2 : Nat} {body : List (Nat × Instr)} {o1 o2 e n c k : Nat} {op : Op}
    (htab : decodeCode (Gen.emitOp b0) = some (body ++ [(o1, addIp n), (o2, addCy c)]) ∧ bytesOf (Gen.emitOp b0) = e ∧
      Gen.decode b0 b1 b2 = (op, n, k))
    (hnj : noJump body = true) (hn : n < 128) (hc : c < 128) (hk : k / 4 = c)
    (hbody : ∀ {β : Type} (B : BusOps β) (g : Regs) (st s1 : St β), Sim g st → g.af % 16 = 0 → st.op1 = b1 → st.op2 = b2 →
      execList B o1 body st = .ok s1 →
      ∃ g1, (∀ m, runOp B op g m n = .ok (advance g1 n, m, STATUS_NORMAL)) ∧ Sim g1 s1 ∧ Untouched st s1) :
    SimulatesF b0 b1 b2 :=
  have ⟨code, hdec, h⟩ := simulates_of_body (fun g => g.af % 16 = 0) (fun st => st.op1 = b1 ∧ st.op2 = b2)
    (fun _ st s => Untouched st s) (fun h u => h.trans u) htab hnj hn hc hk fun B g st s1 hs h0 hq => hbody B g st s1 hs h0 hq.1 hq.2
  ⟨code, hdec, fun β B g m fuel st st' hs h0 hpc h1 h2 => h β B g m fuel st st' hs h0 ⟨h1, h2⟩ hpc⟩

/-- offsets of the conversion after the two carry instructions and a first instruction of `n0` bytes -/
def adcOff (n0 : Nat) (k : Nat) : Nat :=
  [4, 4 + n0, 4 + n0 + 1, 4 + n0 + 2, 4 + n0 + 5, 4 + n0 + 7, 4 + n0 + 10, 4 + n0 + 16, 4 + n0 + 21, 4 + n0 + 27, 4 + n0 + 29].getD k 0

def opcodeAdc (r : Reg8) : Nat := 0x88 + r8code r
def opcodeSbc (r : Reg8) : Nat := 0x98 + r8code r

/-- the carry preamble where the ADC / SBC templates and RLA / RRA / RL r / RR r have it: at offsets 0 and 2 -/
def carryPre : List (Nat × Instr) := [(0, Instr.alu8i AluOp.and (R8.lo 0) 16), (2, Instr.alu8i AluOp.add (R8.lo 0) 240)]

theorem table_adc (r : Reg8) (b1 b2 : Nat) :
    (decodeCode (Gen.emitOp (opcodeAdc r)) =
      some ((carryPre ++ ((4, Instr.alu8 AluOp.adc (R8.hi 0) (hostR8 r)) :: pipeAt (adcOff 2) 15 240)) ++ [(35, addIp 1), (39, addCy 1)]) ∧
    bytesOf (Gen.emitOp (opcodeAdc r)) = 43 ∧ Gen.decode (opcodeAdc r) b1 b2 = (.AddWithCarry8 .A r, 1, 4)) ∧
    (decodeCode (Gen.emitOp (opcodeSbc r)) =
      some (((carryPre ++ ((4, Instr.alu8 AluOp.sbb (R8.hi 0) (hostR8 r)) :: pipeAt (adcOff 2) 15 240)) ++ [(35, Instr.alu8i AluOp.or (R8.lo 0) 64)]) ++ [(37, addIp 1), (41, addCy 1)]) ∧
    bytesOf (Gen.emitOp (opcodeSbc r)) = 45 ∧ Gen.decode (opcodeSbc r) b1 b2 = (.SubWithCarry8 .A r, 1, 4)) := by
  refine ⟨⟨?_, ?_, by cases r <;> rfl⟩, ⟨?_, ?_, by cases r <;> rfl⟩⟩ <;> revert r <;> exact forall_reg8 (by decide +kernel)

theorem table_adc_imm (b1 b2 : Nat) :
    (decodeCode (Gen.emitOp 0xce) =
      some ((carryPre ++ ((4, Instr.alu8i AluOp.adc (R8.hi 0) 256) :: pipeAt (adcOff 3) 15 240)) ++ [(36, addIp 2), (40, addCy 2)]) ∧
    bytesOf (Gen.emitOp 0xce) = 44 ∧ Gen.decode 0xce b1 b2 = (.AddAbsoluteWithCarry8 b1, 2, 8)) ∧
    (decodeCode (Gen.emitOp 0xde) =
      some (((carryPre ++ ((4, Instr.alu8i AluOp.sbb (R8.hi 0) 256) :: pipeAt (adcOff 3) 15 240)) ++ [(36, Instr.alu8i AluOp.or (R8.lo 0) 64)]) ++ [(38, addIp 2), (42, addCy 2)]) ∧
    bytesOf (Gen.emitOp 0xde) = 46 ∧ Gen.decode 0xde b1 b2 = (.SubAbsoluteWithCarry8 b1, 2, 8)) :=
  ⟨⟨by decide +kernel, by decide +kernel, rfl⟩, ⟨by decide +kernel, by decide +kernel, rfl⟩⟩

/-- **ADC A,r** (7 registers): all states whose F has a clear low nibble -/
theorem sim_adc (r : Reg8) (b1 b2 : Nat) : SimulatesF (opcodeAdc r) b1 b2 :=
  SimulatesF.intro (table_adc r b1 b2).1 rfl (by decide) (by decide) rfl fun B g _ _ hs h0 _ _ hex =>
    ⟨_, fun _ => rfl, adc_body B _ _ (isAOp_reg B .adc (hostR8 r)) (rdStable_reg r) (getReg g r) (getReg_lt g r) 0 2 (adcOff 2) 35 g _ _ hs h0 (get8_sim hs r) hex⟩

/-- **SBC A,r** (7 registers): all states whose F has a clear low nibble -/
theorem sim_sbc (r : Reg8) (b1 b2 : Nat) : SimulatesF (opcodeSbc r) b1 b2 :=
  SimulatesF.intro (table_adc r b1 b2).2 rfl (by decide) (by decide) rfl fun B g _ _ hs h0 _ _ hex =>
    ⟨_, fun _ => rfl, sbc_body B _ _ (isAOp_reg B .sbb (hostR8 r)) (rdStable_reg r) (getReg g r) (getReg_lt g r) 0 2 (adcOff 2) 37 g _ _ hs h0 (get8_sim hs r) hex⟩

/-- **ADC A,n** (every operand byte): all states whose F has a clear low nibble -/
theorem sim_ce (b1 b2 : Nat) (hb : b1 < 256) : SimulatesF 0xce b1 b2 :=
  SimulatesF.intro (table_adc_imm b1 b2).1 rfl (by decide) (by decide) rfl fun B g _ _ hs h0 hp _ hex =>
    ⟨_, fun _ => rfl, adc_body B _ _ (isAOp_imm B .adc) rdStable_imm b1 hb 0 2 (adcOff 3) 36 g _ _ hs h0 hp hex⟩

/-- **SBC A,n** (every operand byte): all states whose F has a clear low nibble -/
theorem sim_de (b1 b2 : Nat) (hb : b1 < 256) : SimulatesF 0xde b1 b2 :=
  SimulatesF.intro (table_adc_imm b1 b2).2 rfl (by decide) (by decide) rfl fun B g _ _ hs h0 hp _ hex =>
    ⟨_, fun _ => rfl, sbc_body B _ _ (isAOp_imm B .sbb) rdStable_imm b1 hb 0 2 (adcOff 3) 38 g _ _ hs h0 hp hex⟩

end GbVerif.X86
