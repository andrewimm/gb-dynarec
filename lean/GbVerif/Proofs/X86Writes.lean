import GbVerif.Model.JitWrites
import GbVerif.Proofs.X86Paths
import GbVerif.Proofs.X86Stack
/-!
Soundness of the write-count analysis (`JitWrites.trWr`) for executions of the x86 model over a bus that counts its
byte writes (`counted B`, for any bus `B`).
-/
namespace GbVerif.X86
open GbVerif.JitCycles GbVerif.JitPaths GbVerif.JitWrites
variable {β : Type}

/-- any bus, with a counter of its successful byte writes -/
def counted (B : Interp.BusOps β) : Interp.BusOps (β × Nat) :=
  ⟨fun m a => B.read m.1 a, fun m a v => match B.write m.1 a v with | .ok b => .ok (b, m.2 + 1) | .error e => .error e⟩

theorem counted_write {B : Interp.BusOps β} {m m' : β × Nat} {a v : Nat} (h : (counted B).write m a v = .ok m') : m'.2 = m.2 + 1 := by
  simp only [counted] at h
  cases hw : B.write m.1 a v with
  | error e => rw [hw] at h; cases h
  | ok b => rw [hw] at h; cases h; rfl

theorem counted_wrote {B : Interp.BusOps β} {n : Nat} {m m' : β × Nat} (h : Wrote (counted B) n m m') : m'.2 = m.2 + n := by
  induction h with
  | none => rfl
  | next _ hw ih => rw [counted_write hw, ih]; rfl

/-- number of byte writes of the helper behind pointer token `p` -/
theorem helperCall_count (B : Interp.BusOps β) (m : β × Nat) (p n addr val : Nat) (x : Nat × (β × Nat))
    (hn : helperWrites p = some n) (h : helperCall (counted B) m (ptrVal p).toNat addr val = .ok x) : x.2.2 = m.2 + n := by
  have hp : 513 ≤ p ∧ p ≤ 517 ∧ (if p = 514 then 1 else if p = 513 ∨ p = 515 then 0 else 2) = n := by
    unfold helperWrites at hn
    simp only [Bool.or_eq_true, beq_iff_eq] at hn
    split at hn
    · rename_i h1; injection hn with hn; exact ⟨by omega, by omega, by rw [if_neg (by omega), if_pos h1]; exact hn⟩
    · split at hn
      · rename_i h2; injection hn with hn; exact ⟨by omega, by omega, by rw [if_pos h2]; exact hn⟩
      · split at hn
        · rename_i h1 h2 h3; injection hn with hn; exact ⟨by omega, by omega, by rw [if_neg h2, if_neg h1]; exact hn⟩
        · cases hn
  have hs := helperCall_shape (counted B) m p addr val hp.1 hp.2.1
  rw [h, hp.2.2] at hs
  exact counted_wrote hs

/-- the relation carried along a run; `base` = the counter at the start of the template -/
def WrRel (base : Nat) (a : WrSt) (s : St (β × Nat)) : Prop :=
  s.bus.2 = base + a.1 ∧ ∀ p, a.2 = some p → get s 0 = ptrVal p

theorem wr_carries (B : Interp.BusOps β) (base : Nat) : Carries (counted B) trWr (WrRel (β := β) base) where
  pc := fun _ _ _ h => h
  step := by
    intro ins a a' s s1 len hj1 hj2 htr hR hsz hstep
    obtain ⟨hcnt, hrax⟩ := hR
    unfold trWr at htr
    split at htr
    · -- movabs rax, p
      rename_i p
      cases htr
      exact ⟨by rw [step_bus (counted B) s s1 _ _ hstep (by intro e; cases e)]; exact hcnt,
        fun q hq => by cases hq; exact movabs_get (counted B) hstep (by omega)⟩
    · -- call rax
      split at htr
      · rename_i p hp
        split at htr
        · rename_i n hn
          cases htr
          have h' : callBus (counted B) ({ s with pc := s.pc + len } : St (β × Nat)) = .ok s1 := hstep
          obtain ⟨x, hx, hu⟩ := callBus_ok (counted B) h'
          have hr0 : get ({ s with pc := s.pc + len } : St (β × Nat)) 0 = ptrVal p := hrax p hp
          rw [hr0] at hx
          have := helperCall_count B _ p n _ _ x hn hx
          refine ⟨?_, fun q hq => by cases hq⟩
          rw [hu.bus, this]
          show s.bus.2 + n = base + (a.1 + n)
          omega
        · cases htr
      · cases htr
    · rename_i hmov hcall
      have hb := step_bus (counted B) s s1 _ _ hstep hcall
      split at htr
      · cases htr
        exact ⟨by rw [hb]; exact hcnt, fun q hq => by cases hq⟩
      · rename_i hd
        cases htr
        have hd' : destReg ins ≠ some 0 := by simpa using hd
        have hfr := step_frame (counted B) s s1 ins _ 0 hstep hcall hd'
        exact ⟨by rw [hb]; exact hcnt, fun q hq => by rw [hfr]; exact hrax q hq⟩

/-- **what `jitWrites` means**: every complete run of the template over a counting bus performs one of the numbers of byte
writes of the analysis -/
theorem jitWrites_sound (B : Interp.BusOps β) (tokens : List Nat) (code : List (Nat × Instr)) (C : List Nat)
    (hdec : decodeCode tokens = some code) (hok : codeOk code (bytesOf tokens) = true) (hC : jitWrites tokens = some C)
    (fr : Nat) (s s' : St (β × Nat)) (hsz : s.r.size = 16) (hpc : s.pc = offAt code (bytesOf tokens) 0)
    (hrun : run (counted B) code (bytesOf tokens) fr s = .ok s') :
    ∃ l ∈ C, s'.bus.2 = s.bus.2 + l := by
  have hR : WrRel (β := β) s.bus.2 (0, none) s := ⟨rfl, fun p hp => by cases hp⟩
  obtain ⟨a', n, hR', hf, hn⟩ := analyse_sound (counted B) trWr (0, none) (fun a => some a.1) _ (wr_carries B s.bus.2)
    tokens code C hdec hok hC fr s s' hsz hpc hR hrun
  cases hf
  exact ⟨a'.1, hn, hR'.1⟩

end GbVerif.X86
