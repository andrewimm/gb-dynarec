import GbVerif.Proofs.InterpFrame
/-!
Every `run_op` arm that is not a block terminator leaves IP at `ip + length` (model-level; the 16-bit mask is applied
by `run_next_op`).  Proved by cases on the `Op` constructor with IP-preservation lemmas for every helper.
-/
namespace GbVerif.Interp

@[simp] theorem setReg_ip (r : Regs) (reg : Reg8) (v : Nat) : (setReg r reg v).ip = r.ip := by cases reg <;> rfl
@[simp] theorem setReg16_ip (r : Regs) (reg : Reg16) (v : Nat) : (setReg16 r reg v).ip = r.ip := by cases reg <;> rfl
@[simp] theorem applyMask_ip (r : Regs) (k : Nat) : (applyMask r k).ip = r.ip := rfl
@[simp] theorem orF_ip (r : Regs) (k : Nat) : (orF r k).ip = r.ip := rfl
@[simp] theorem testZero_ip (r : Regs) (v : Nat) : (testZero r v).ip = r.ip := by unfold testZero; split <;> rfl
@[simp] theorem testHalf_ip (r : Regs) (b : Bool) : (testHalf r b).ip = r.ip := by unfold testHalf; split <;> rfl
@[simp] theorem testCarry_ip (r : Regs) (b : Bool) : (testCarry r b).ip = r.ip := by unfold testCarry; split <;> rfl
@[simp] theorem setNeg_ip (r : Regs) : (setNeg r).ip = r.ip := rfl
@[simp] theorem flagsAdd_ip (r : Regs) (x : Nat × Bool × Bool) : (flagsAdd r x).ip = r.ip := by simp [flagsAdd]
@[simp] theorem flagsSub_ip (r : Regs) (x : Nat × Bool × Bool) : (flagsSub r x).ip = r.ip := by simp [flagsSub]
@[simp] theorem flagsRot_ip (r : Regs) (x : Nat × Bool) (z : Bool) : (flagsRot r x z).ip = r.ip := by
  unfold flagsRot; simp only []; split <;> simp
@[simp] theorem opAdd_ip (r : Regs) (v : Nat) (d : Reg8) : (opAdd r v d).ip = r.ip := by simp [opAdd]
@[simp] theorem opAdc_ip (r : Regs) (v : Nat) (d : Reg8) : (opAdc r v d).ip = r.ip := by simp [opAdc]
@[simp] theorem opSub_ip (r : Regs) (v : Nat) (d : Reg8) : (opSub r v d).ip = r.ip := by simp [opSub]
@[simp] theorem opSbc_ip (r : Regs) (v : Nat) (d : Reg8) : (opSbc r v d).ip = r.ip := by simp [opSbc]
@[simp] theorem opAnd_ip (r : Regs) (v : Nat) (d : Reg8) : (opAnd r v d).ip = r.ip := by simp [opAnd]
@[simp] theorem opXor_ip (r : Regs) (v : Nat) (d : Reg8) : (opXor r v d).ip = r.ip := by simp [opXor]
@[simp] theorem opOr_ip (r : Regs) (v : Nat) (d : Reg8) : (opOr r v d).ip = r.ip := by simp [opOr]
@[simp] theorem opCp_ip (r : Regs) (v : Nat) : (opCp r v).ip = r.ip := by simp [opCp]
@[simp] theorem daa_ip (r : Regs) : (daa r).ip = r.ip := rfl
@[simp] theorem advance_ip (r : Regs) (n : Nat) : (advance r n).ip = r.ip + n := rfl

open GbVerif.CoreProofs (Returns)
variable {β : Type} (B : BusOps β)

theorem push_ip {v : Nat} {r : Regs} {m : β} : Returns (push B v r m) (fun p => p.1.ip = r.ip) :=
  Returns.bind fun _ _ => Returns.bind fun _ _ => Returns.pure (setReg16_ip r _ _)

theorem pop_ip {r : Regs} {m : β} : Returns (pop B r m) (fun p => p.2.ip = r.ip) :=
  Returns.bind fun _ _ => Returns.bind fun _ _ => Returns.pure (setReg16_ip r _ _)

theorem rmwHL_ip {r : Regs} {m : β} {f : Nat → Regs → Nat × Regs} (hf : ∀ v r, (f v r).2.ip = r.ip) :
    Returns (rmwHL B r m f) (fun p => p.1.ip = r.ip) :=
  Returns.bind fun _ _ => Returns.bind fun _ _ => Returns.pure (hf _ _)

/-- the end of a `run_op` arm that falls through.  About a variable `X`, so that a register file holding
`u32 (r.hl + 4294967295)` is never compared with `r` by unfolding -/
theorem Returns.ok_len {X r : Regs} {len st : Nat} {m : β} (h : X.ip = r.ip) :
    Returns (.ok (advance X len, m, st) : Except Bus.Panic (Regs × β × Nat)) (fun x => x.1.ip = r.ip + len) :=
  Returns.ok (congrArg (· + len) h)

theorem runOp_ip (op : Op) (r : Regs) (m : β) (len : Nat) (r' : Regs) (m' : β) (st : Nat)
    (hb : Gen.isBlockEnd op = false) (h : runOp B op r m len = .ok (r', m', st)) : r'.ip = r.ip + len := by
  suffices Returns (runOp B op r m len) (fun x => x.1.ip = r.ip + len) from this _ h
  cases op <;> cases hb
  case LoadToIndirect loc _ =>
    cases loc <;> dsimp only [runOp] <;> exact Returns.bind fun _ _ => Returns.ok_len rfl
  case LoadFromIndirect _ loc =>
    cases loc <;> dsimp only [runOp] <;> exact Returns.bind fun _ _ => Returns.ok_len (setReg_ip ..)
  all_goals dsimp only [runOp]
  all_goals with_reducible repeat' (first
    | (apply Returns.ok_len; try simp) | exact Returns.error
    | (apply Returns.bind_of (push_ip B); intro _ _)
    | (apply Returns.bind_of (pop_ip B); intro _ _)
    | (apply Returns.bind_of (rmwHL_ip B (by intro v r; simp)); intro _ _)
    | (apply Returns.bind; intro _ _))
  all_goals assumption

end GbVerif.Interp
