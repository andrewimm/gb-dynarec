import GbVerif.Proofs.Machine
/-!
The serial log of the whole machine only grows: no step of `Core::update` — any instruction, dispatch, the passage of
time through all devices — retracts or reorders what was already emitted (C18, both stepping modes).
-/
namespace GbVerif.SysProofs
open GbVerif.Core GbVerif.CoreProofs

def LogPrefix (l : List Nat) (b : Bus.State) : Prop := l <+: b.io.serialOut

theorem setByte_log (io : Bus.Io) (a v : Nat) : io.serialOut <+: (io.setByte a v).serialOut := by
  unfold Bus.Io.setByte
  split
  case h_3 =>
    show io.serialOut <+: (if v &&& 0x80 != 0 then io.serialOut ++ [io.sb] else io.serialOut)
    split
    · exact List.prefix_append _ _
    · exact List.prefix_refl _
  all_goals exact List.prefix_refl _

theorem write_log {s s' : Bus.State} {a v : Nat} {l : List Nat} (h : Bus.write s a v = .ok s') (hp : LogPrefix l s) : LogPrefix l s' := by
  unfold LogPrefix at *
  rcases (BusProofs.write_effect h).io with e | e | e <;> rw [e]
  · exact hp
  · exact hp
  · exact hp.trans (setByte_log _ _ _)

theorem ioRun_log {io io' : Bus.Io} {k : Nat} (h : Sys.ioRun io k = .ok io') : io'.serialOut = io.serialOut := by
  obtain ⟨v, vf, x, _, rfl⟩ := ioRun_elim h
  rfl

theorem dmaLoop_log (source : Nat) {l : List Nat} : ∀ (n : Nat) (s : Bus.State) (off : Nat) (s' : Bus.State) (off' : Nat),
    Sys.dmaLoop s source off n = .ok (s', off') → LogPrefix l s → LogPrefix l s' := by
  intro n
  induction n with
  | zero => intro s off s' off' h hp; injection h with h; injection h with h1 _; subst h1; exact hp
  | succ n ih =>
    intro s off s' off' h hp
    rw [dmaLoop_succ] at h
    obtain ⟨s1, h1, h⟩ := bind_ok_elim h
    obtain ⟨io2, h2, h⟩ := bind_ok_elim h
    obtain ⟨v, _, h1⟩ := bind_ok_elim h1
    refine ih _ _ _ _ h ?_
    have hp1 := write_log h1 hp
    unfold LogPrefix at *
    rw [ioRun_log h2]; exact hp1

theorem dev_log {b b' : Bus.State} {k : Nat} {l : List Nat} (h : Sys.dev b k = .ok b') (hp : LogPrefix l b) : LogPrefix l b' := by
  rcases dev_elim h with ⟨_, io, h1, rfl⟩ | ⟨source, off, s1, off', io, _, h1, h2, rfl⟩
  · unfold LogPrefix at *
    rw [ioRun_log h1]; exact hp
  · have hp1 := dmaLoop_log _ _ _ _ _ _ h1 hp
    unfold LogPrefix at *
    rw [ioRun_log h2]; exact hp1

/-- **the serial log only grows**, instruction-stepped -/
theorem update_log {c c' : Core.State} (h : update Sys.dev c = .ok c') : c.bus.io.serialOut <+: c'.bus.io.serialOut :=
  update_step (Q := fun b _ => LogPrefix c.bus.io.serialOut b) write_log (fun _ _ _ hp => hp) (fun _ hd => dev_log hd)
    h (List.prefix_refl _)

/-- … and block-stepped -/
theorem updateBlock_log {c c' : Core.State} (h : updateBlock Sys.dev c = .ok c') : c.bus.io.serialOut <+: c'.bus.io.serialOut :=
  updateBlock_step (Q := fun b _ => LogPrefix c.bus.io.serialOut b) write_log (fun _ _ _ hp => hp) (fun _ hd => dev_log hd)
    h (List.prefix_refl _)

end GbVerif.SysProofs
