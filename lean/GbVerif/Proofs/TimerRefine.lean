import GbVerif.Proofs.Timer
import GbVerif.Spec.Timer
/-!
Timer model, part 2: the invariant, and refinement of the model (batched, 16-bit, masks) to the per-clock
hardware spec (`GbVerif.TimerSpec`, unbounded elapsed-clock count, TAC only).
-/
namespace GbVerif.Timer
open GbVerif.TimerBits
open GbVerif.TimerSpec (Hw selBit period enabled signal tickTima writeTac)

/-! ### the two mask functions, in terms of the spec's `selBit` / `enabled` -/

theorem selBit_cases (v : Nat) : selBit v = 3 ∨ selBit v = 5 ∨ selBit v = 7 ∨ selBit v = 9 := by
  unfold selBit
  have : v % 4 = 0 ∨ v % 4 = 1 ∨ v % 4 = 2 ∨ v % 4 = 3 := by omega
  rcases this with h | h | h | h <;> simp [h]

theorem clockMaskOf_eq (v : Nat) : clockMaskOf v = 2 ^ selBit v := by
  unfold clockMaskOf selBit
  rw [and_3]
  have : v % 4 = 0 ∨ v % 4 = 1 ∨ v % 4 = 2 ∨ v % 4 = 3 := by omega
  rcases this with h | h | h | h <;> simp [h]

theorem enabledMaskOf_eq (v : Nat) : enabledMaskOf v = if enabled v then 0xffff else 0 := by
  unfold enabledMaskOf enabled
  rw [and_4_ne_zero]

theorem two_mul_clockMaskOf (v : Nat) : 2 * clockMaskOf v = period v := by
  rw [clockMaskOf_eq]; unfold period; rw [Nat.pow_succ]; omega

theorem selBit_mod (v : Nat) : selBit (v % 256) = selBit v := by
  unfold selBit
  have : v % 256 % 4 = v % 4 := by omega
  rw [this]

/-- Representation invariant of `Timer`, between operations. The first alternative of the last conjunct is
the state of `Timer::new()` (both masks 0 until TAC is first written). -/
def Wf (s : State) : Prop :=
  s.cycleCount < 65536 ∧ s.counter < 256 ∧ s.modulo < 256 ∧ s.controlValue < 256 ∧
  ((s.enabledMask = 0 ∧ s.timerClockMask = 0 ∧ s.controlValue = 0) ∨
   (s.enabledMask = enabledMaskOf s.controlValue ∧ s.timerClockMask = clockMaskOf s.controlValue))

instance (s : State) : Decidable (Wf s) := by unfold Wf; infer_instance

theorem Wf.mask_lt {s : State} (w : Wf s) : s.timerClockMask < 65536 := by
  rcases w.2.2.2.2 with h | h
  · rw [h.2.1]; decide
  · rw [h.2, clockMaskOf_eq]
    rcases selBit_cases s.controlValue with e | e | e | e <;> rw [e] <;> decide

/-- both masks in terms of TAC; the state of `Timer::new()` fits, its TAC = 0 being disabled -/
theorem Wf.masks {s : State} (w : Wf s) :
    s.enabledMask = (if enabled s.controlValue then 0xffff else 0) ∧
    (enabled s.controlValue = true → s.timerClockMask = 2 ^ selBit s.controlValue) := by
  rcases w.2.2.2.2 with ⟨h1, _, h3⟩ | ⟨h1, h2⟩
  · rw [h1, h3]; exact ⟨rfl, fun h => absurd h (by decide)⟩
  · exact ⟨h1.trans (enabledMaskOf_eq _), fun _ => h2.trans (clockMaskOf_eq _)⟩

/-- the selected divider bit lies in the 16 bits the model keeps -/
theorem testBit_selBit {a b : Nat} (v : Nat) (h : a % 65536 = b % 65536) :
    a.testBit (selBit v) = b.testBit (selBit v) := by
  have hk : selBit v < 16 := by rcases selBit_cases v with e | e | e | e <;> omega
  rw [NatBits.testBit_mod a _ 16 hk, NatBits.testBit_mod b _ 16 hk, h]

def Refines (s : State) (h : Hw) : Prop :=
  Wf s ∧ s.cycleCount = h.elapsed % 65536 ∧ s.counter = h.tima ∧ s.modulo = h.tma ∧ s.controlValue = h.tac

def abs (s : State) : Hw := ⟨s.cycleCount, s.counter, s.modulo, s.controlValue⟩

theorem refines_abs (s : State) (w : Wf s) : Refines s (abs s) :=
  ⟨w, (Nat.mod_eq_of_lt w.1).symm, rfl, rfl, rfl⟩

theorem refines_init : Refines init TimerSpec.init := by
  refine ⟨by decide, rfl, rfl, rfl, rfl⟩

/-- two model states representing the same hardware state with the same masks are equal -/
theorem refines_inj {s t : State} {h : Hw} (rs : Refines s h) (rt : Refines t h)
    (he : s.enabledMask = t.enabledMask) (hm : s.timerClockMask = t.timerClockMask) : s = t := by
  obtain ⟨_, a1, a2, a3, a4⟩ := rs
  obtain ⟨_, b1, b2, b3, b4⟩ := rt
  cases s; cases t
  simp only [State.mk.injEq] at *
  exact ⟨by rw [a1, b1], by rw [a2, b2], by rw [a3, b3], he, hm, by rw [a4, b4]⟩

theorem refines_cc {s : State} {h : Hw} (r : Refines s h) (e : Nat) :
    Refines { s with cycleCount := e % 65536 } { h with elapsed := e } := by
  obtain ⟨⟨_, w2, w3, w4, w5⟩, _, r2, r3, r4⟩ := r
  exact ⟨⟨Nat.mod_lt _ (by decide), w2, w3, w4, w5⟩, rfl, r2, r3, r4⟩

theorem refines_resetDivider {s : State} {h : Hw} (r : Refines s h) :
    Refines (resetDivider s) (TimerSpec.writeDiv h) := refines_cc r 0

theorem refines_setCounter {s : State} {h : Hw} (r : Refines s h) (v : Nat) :
    Refines (setCounter s v) (TimerSpec.writeTima h v) := by
  obtain ⟨⟨w1, _, w3, w4, w5⟩, r1, _, r3, r4⟩ := r
  exact ⟨⟨w1, Nat.mod_lt _ (by decide), w3, w4, w5⟩, r1, rfl, r3, r4⟩

theorem refines_setModulo {s : State} {h : Hw} (r : Refines s h) (v : Nat) :
    Refines (setModulo s v) (TimerSpec.writeTma h v) := by
  obtain ⟨⟨w1, w2, _, w4, w5⟩, r1, r2, _, r4⟩ := r
  exact ⟨⟨w1, w2, Nat.mod_lt _ (by decide), w4, w5⟩, r1, r2, rfl, r4⟩

theorem refines_inc {s : State} {h : Hw} (r : Refines s h) :
    Refines (incrementCounter s).1 (tickTima h).1 ∧ (incrementCounter s).2 = (tickTima h).2 := by
  obtain ⟨⟨w1, w2, w3, w4, w5⟩, r1, r2, r3, r4⟩ := r
  unfold incrementCounter tickTima
  by_cases hc : s.counter = 255
  · have ht : h.tima = 255 := by rw [← r2]; exact hc
    simp only [hc, ht, beq_self_eq_true, if_true, and_true]
    exact ⟨⟨w1, w3, w3, w4, w5⟩, r1, r3, r3, r4⟩
  · have ht : ¬ h.tima = 255 := by rw [← r2]; exact hc
    have hb : (s.counter == 255) = false := by simpa using hc
    simp only [hb, ht, if_false, and_true, Bool.false_eq_true]
    refine ⟨⟨w1, Nat.mod_lt _ (by decide), w3, w4, w5⟩, r1, ?_, r3, r4⟩
    show (s.counter + 1) % 256 = h.tima + 1
    rw [← r2]; omega

/-- the masked bit the code computes is the spec's `signal` -/
theorem masked_eq_signal {s : State} {h : Hw} (r : Refines s h) :
    (s.cycleCount &&& s.timerClockMask &&& s.enabledMask != 0) = signal h := by
  obtain ⟨he, hm⟩ := r.1.masks
  rw [r.2.2.2.2] at he hm
  unfold signal
  cases hen : enabled h.tac
  · rw [he, hen]; simp
  · have hlt : s.cycleCount &&& 2 ^ selBit h.tac < 65536 := Nat.lt_of_le_of_lt Nat.and_le_left r.1.1
    rw [he, hm hen, hen, if_pos rfl, and_ffff, Nat.mod_eq_of_lt hlt, NatBits.mask_ne, Bool.and_true]
    exact testBit_selBit _ (by rw [r.2.1, Nat.mod_mod])

/-- the field updates of `set_timer_control` -/
def withTac (s : State) (v : Nat) : State :=
  { s with controlValue := v % 256, enabledMask := enabledMaskOf (v % 256), timerClockMask := clockMaskOf (v % 256) }

theorem setTimerControl_eq (s : State) (v : Nat) : setTimerControl s v =
    if (s.cycleCount &&& s.timerClockMask &&& s.enabledMask != 0) = true then
      if ((withTac s v).cycleCount &&& (withTac s v).timerClockMask &&& (withTac s v).enabledMask == 0) = true
      then incrementCounter (withTac s v) else (withTac s v, false)
    else (withTac s v, false) := rfl

theorem writeTac_eq (h : Hw) (v : Nat) : writeTac h v =
    if (signal h && !signal { h with tac := v % 256 }) = true then tickTima { h with tac := v % 256 }
    else ({ h with tac := v % 256 }, false) := rfl

theorem refines_tac {s : State} {h : Hw} (r : Refines s h) (v : Nat) :
    Refines (withTac s v) { h with tac := v % 256 } := by
  obtain ⟨⟨w1, w2, w3, _, _⟩, r1, r2, r3, _⟩ := r
  exact ⟨⟨w1, w2, w3, Nat.mod_lt _ (by decide), Or.inr ⟨rfl, rfl⟩⟩, r1, r2, r3, rfl⟩

/-- A TAC write ticks TIMA exactly when it turns `selected bit ∧ enable` from 1 to 0; otherwise it only stores
the new control value and masks. -/
theorem setTimerControl_signal {s : State} {h : Hw} (r : Refines s h) (v : Nat) :
    setTimerControl s v =
      if (signal h && !signal { h with tac := v % 256 }) = true
      then incrementCounter (withTac s v) else (withTac s v, false) := by
  rw [setTimerControl_eq, masked_eq_signal r, ← Bool.not_not (_ == 0), ← bne, masked_eq_signal (refines_tac r v)]
  cases signal h <;> cases signal { h with tac := v % 256 } <;> rfl

/-- `set_timer_control` is the spec's TAC write, glitch included -/
theorem refines_setTimerControl {s : State} {h : Hw} (r : Refines s h) (v : Nat) :
    Refines (setTimerControl s v).1 (writeTac h v).1 ∧ (setTimerControl s v).2 = (writeTac h v).2 := by
  rw [setTimerControl_signal r, writeTac_eq]
  split
  · exact refines_inc (refines_tac r v)
  · exact ⟨refines_tac r v, rfl⟩

theorem clock_eq (s : State) : clock s =
    if (s.enabledMask != 0 &&
        (s.cycleCount &&& s.timerClockMask != 0 && (s.cycleCount + 1) &&& s.timerClockMask == 0)) = true
    then ({ (incrementCounter s).1 with cycleCount := (s.cycleCount + 1) % 65536 }, (incrementCounter s).2)
    else ({ s with cycleCount := (s.cycleCount + 1) % 65536 }, false) := by
  unfold clock
  by_cases he : (s.enabledMask == 0) = true
  · have : (s.enabledMask != 0) = false := by simpa using he
    simp [he, this]
  · have hne : (s.enabledMask != 0) = true := by simpa using he
    simp only [he, hne, Bool.true_and, if_false, Bool.false_eq_true]
    rw [tick_eq]
    split
    · rw [incrementCounter_cc s (s.cycleCount + 1)]; rfl
    · rfl

theorem tickTima_elapsed (h : Hw) (e : Nat) :
    tickTima { h with elapsed := e } = ({ (tickTima h).1 with elapsed := e }, (tickTima h).2) := by
  unfold tickTima; split <;> rfl

theorem tickTima_frame (h : Hw) :
    (tickTima h).1.elapsed = h.elapsed ∧ (tickTima h).1.tma = h.tma ∧ (tickTima h).1.tac = h.tac := by
  unfold tickTima; split <;> simp

theorem spec_clock_eq (h : Hw) : TimerSpec.clock h =
    if (signal h && !signal { h with elapsed := h.elapsed + 1 }) = true
    then ({ (tickTima h).1 with elapsed := h.elapsed + 1 }, (tickTima h).2)
    else ({ h with elapsed := h.elapsed + 1 }, false) := by
  rw [← tickTima_elapsed h (h.elapsed + 1)]; rfl

/-- the code's falling-edge test on the masked counter is the spec's falling edge of `signal` -/
theorem fall_cond_eq {s : State} {h : Hw} (r : Refines s h) :
    (s.enabledMask != 0 &&
      (s.cycleCount &&& s.timerClockMask != 0 && (s.cycleCount + 1) &&& s.timerClockMask == 0)) =
    (signal h && !signal { h with elapsed := h.elapsed + 1 }) := by
  obtain ⟨he, hm⟩ := r.1.masks
  rw [r.2.2.2.2] at he hm
  unfold signal
  cases hen : enabled h.tac
  · rw [he, hen]; simp
  · rw [he, hm hen, hen, NatBits.mask_ne, NatBits.mask_clear,
      testBit_selBit h.tac (a := s.cycleCount) (b := h.elapsed) (by rw [r.2.1, Nat.mod_mod]),
      testBit_selBit h.tac (a := s.cycleCount + 1) (b := h.elapsed + 1) (by rw [r.2.1]; omega)]
    simp

theorem refines_clock {s : State} {h : Hw} (r : Refines s h) :
    Refines (clock s).1 (TimerSpec.clock h).1 ∧ (clock s).2 = (TimerSpec.clock h).2 := by
  have hc : (s.cycleCount + 1) % 65536 = (h.elapsed + 1) % 65536 := by rw [r.2.1]; omega
  rw [clock_eq, spec_clock_eq, fall_cond_eq r, hc]
  split
  · exact ⟨refines_cc (refines_inc r).1 (h.elapsed + 1), (refines_inc r).2⟩
  · exact ⟨refines_cc r (h.elapsed + 1), rfl⟩

theorem refines_clocks : ∀ (n : Nat) {s : State} {h : Hw}, Refines s h →
    Refines (clocks n s).1 (TimerSpec.clocks n h).1 ∧ (clocks n s).2 = (TimerSpec.clocks n h).2
  | 0, _, _, r => ⟨r, rfl⟩
  | n + 1, s, h, r => by
    have h1 := refines_clock r
    have h2 := refines_clocks n h1.1
    simp only [clocks, TimerSpec.clocks]
    exact ⟨h2.1, by rw [h1.2, h2.2]⟩

/-- a batch of `n` clocks through `run_cycles` is `n` clocks of the hardware spec -/
theorem refines_run (n : Nat) {s : State} {h : Hw} (r : Refines s h) :
    Refines (run n s).1 (TimerSpec.clocks n h).1 ∧ (run n s).2 = (TimerSpec.clocks n h).2 := by
  rw [run_eq_clocks n s r.1.mask_lt, norm_of_lt s r.1.1]
  exact refines_clocks n r

/-- the event a model operation stands for -/
def toEv : Op → TimerSpec.Ev
  | .div => .div
  | .tima v => .tima v
  | .tma v => .tma v
  | .tac v => .tac v
  | .run n => .time n

theorem refines_apply {s : State} {h : Hw} (r : Refines s h) (op : Op) :
    Refines (apply s op).1 (TimerSpec.apply h (toEv op)).1 ∧ (apply s op).2 = (TimerSpec.apply h (toEv op)).2 := by
  cases op with
  | div => exact ⟨refines_resetDivider r, rfl⟩
  | tima v => exact ⟨refines_setCounter r v, rfl⟩
  | tma v => exact ⟨refines_setModulo r v, rfl⟩
  | tac v => exact refines_setTimerControl r v
  | run n => exact refines_run n r

theorem refines_exec : ∀ (ops : List Op) {s : State} {h : Hw}, Refines s h →
    Refines (exec ops s).1 (TimerSpec.exec (ops.map toEv) h).1 ∧
      (exec ops s).2 = (TimerSpec.exec (ops.map toEv) h).2
  | [], _, _, r => ⟨r, rfl⟩
  | op :: ops, s, h, r => by
    have h1 := refines_apply r op
    have h2 := refines_exec ops h1.1
    simp only [exec, TimerSpec.exec, List.map_cons]
    exact ⟨h2.1, by rw [h1.2, h2.2]⟩

theorem getDivider_eq (s : State) : getDivider s = s.cycleCount / 256 % 256 := by
  unfold getDivider
  rw [Nat.shiftRight_eq_div_pow]
  have : (s.cycleCount &&& 0xff00) / 2 ^ 8 = s.cycleCount / 2 ^ 8 &&& 0xff00 / 2 ^ 8 := Nat.and_div_two_pow
  rw [this]
  have : (0xff00 : Nat) / 2 ^ 8 = 2 ^ 8 - 1 := by decide
  rw [this, Nat.and_two_pow_sub_one_eq_mod]
  omega

theorem getDivider_refines {s : State} {h : Hw} (r : Refines s h) : getDivider s = TimerSpec.div h := by
  rw [getDivider_eq, r.2.1]; unfold TimerSpec.div; omega

/-- spec: a clock adds one to `elapsed` and leaves TAC and TMA alone -/
theorem spec_clock_elapsed (h : Hw) : (TimerSpec.clock h).1.elapsed = h.elapsed + 1 ∧
    (TimerSpec.clock h).1.tac = h.tac ∧ (TimerSpec.clock h).1.tma = h.tma := by
  rw [spec_clock_eq]
  split <;> simp [tickTima_frame]

theorem spec_clocks_elapsed : ∀ (n : Nat) (h : Hw), (TimerSpec.clocks n h).1.elapsed = h.elapsed + n ∧
    (TimerSpec.clocks n h).1.tac = h.tac ∧ (TimerSpec.clocks n h).1.tma = h.tma
  | 0, h => ⟨rfl, rfl, rfl⟩
  | n + 1, h => by
    have h1 := spec_clock_elapsed h
    have h2 := spec_clocks_elapsed n (TimerSpec.clock h).1
    simp only [TimerSpec.clocks]
    exact ⟨by rw [h2.1, h1.1]; omega, by rw [h2.2.1, h1.2.1], by rw [h2.2.2, h1.2.2]⟩

theorem spec_writeTac_elapsed (h : Hw) (v : Nat) : (writeTac h v).1.elapsed = h.elapsed := by
  rw [writeTac_eq]
  split <;> simp [tickTima_frame]

def sinceStep (acc : Nat) (e : TimerSpec.Ev) : Nat :=
  match e with
  | .div => 0
  | .time n => acc + n
  | _ => acc

theorem spec_apply_elapsed (h : Hw) (e : TimerSpec.Ev) :
    (TimerSpec.apply h e).1.elapsed = sinceStep h.elapsed e := by
  cases e with
  | div => rfl
  | tima v => rfl
  | tma v => rfl
  | tac v => exact spec_writeTac_elapsed h v
  | time n => exact (spec_clocks_elapsed n h).1

theorem spec_exec_elapsed : ∀ (es : List TimerSpec.Ev) (h : Hw),
    (TimerSpec.exec es h).1.elapsed = es.foldl sinceStep h.elapsed
  | [], _ => rfl
  | e :: es, h => by
    simp only [TimerSpec.exec, List.foldl_cons]
    rw [spec_exec_elapsed es, spec_apply_elapsed]

theorem sinceDivWrite_eq (es : List TimerSpec.Ev) : TimerSpec.sinceDivWrite es = es.foldl sinceStep 0 := rfl

end GbVerif.Timer
