import GbVerif.Model.Debug
import GbVerif.Spec.Debug
/-!
Lemmas for C20, disassembly part.  The only facts used about the generated decoder table are the two
256-entry enumerations `dec_facts` / `cb_facts` (lengths within 1..3, operand reads inside the length).
-/
namespace GbVerif.DebugDisasm
open GbVerif.Debug GbVerif.DebugSpec

/-! ### facts about the generated table (kernel enumeration, re-checked whenever the table changes) -/

theorem dec_facts : ∀ b, b < 256 → b ≠ Gen.prefixByte →
    (1 ≤ Gen.decLen b ∧ Gen.decLen b ≤ 3 ∧ Gen.decReads b + 1 ≤ Gen.decLen b) := by decide +kernel

theorem cb_facts : ∀ b, b < 256 →
    (1 ≤ Gen.cbLen b ∧ Gen.cbLen b ≤ 3 ∧ 1 + Gen.cbReads b + 1 ≤ Gen.cbLen b) := by decide +kernel

theorem prefix_lt : Gen.prefixByte < 256 := by decide

theorem instr_facts {b0 b1 : Nat} (h0 : b0 < 256) (h1 : b1 < 256) :
    1 ≤ Gen.instrLen b0 b1 ∧ Gen.instrLen b0 b1 ≤ 3 ∧ Gen.instrReads b0 b1 + 1 ≤ Gen.instrLen b0 b1 := by
  unfold Gen.instrLen Gen.instrReads
  by_cases h : b0 = Gen.prefixByte
  · simp only [h, if_true]; exact cb_facts b1 h1
  · simp only [h, if_false]; exact dec_facts b0 h0 h

theorem instrLen_nonprefix {b0 : Nat} (h : b0 ≠ Gen.prefixByte) (x y : Nat) :
    Gen.instrLen b0 x = Gen.instrLen b0 y ∧ Gen.instrReads b0 x = Gen.instrReads b0 y := by
  simp [Gen.instrLen, Gen.instrReads, h]

/-- A complete instruction: its first byte — and, after the prefix byte, its second — select a decoder arm, and
it consists of exactly as many bytes as that arm's length. -/
def Complete (i : List Nat) : Prop :=
  ∃ b0 rest, i = b0 :: rest ∧ (∀ b ∈ i, b < 256) ∧ (b0 = Gen.prefixByte → rest ≠ []) ∧
    i.length = Gen.instrLen b0 (rest.headD 0)

def ofItem (x : Item) : Instr := ⟨x.address, x.length, x.bytes⟩

theorem headD_lt {l : List Nat} (h : ∀ b ∈ l, b < 256) : l.headD 0 < 256 := by
  cases l with
  | nil => decide
  | cons a b => exact h a (List.mem_cons_self ..)

/-- one step of the loop over a complete instruction followed by anything -/
theorem loop_step (fuel a : Nat) (i tl : List Nat) (hi : Complete i) :
    disasmLoop (fuel + 1) a (i ++ tl) =
      match disasmLoop fuel ((a + i.length) % 65536) tl with
      | .error e => .error e
      | .ok out => .ok (⟨a, i.length, i⟩ :: out) := by
  obtain ⟨b0, rest, rfl, hb, hp, hlen⟩ := hi
  have h0 : b0 < 256 := hb b0 (List.mem_cons_self ..)
  have hrest : ∀ b ∈ rest, b < 256 := fun b hb' => hb b (List.mem_cons_of_mem _ hb')
  have hf := instr_facts h0 (headD_lt hrest)
  -- the byte after the first, as the decoder sees it, selects the same arm
  have hsame : Gen.instrLen b0 ((rest ++ tl).headD 0) = Gen.instrLen b0 (rest.headD 0) ∧
      Gen.instrReads b0 ((rest ++ tl).headD 0) = Gen.instrReads b0 (rest.headD 0) := by
    cases rest with
    | nil =>
      have : b0 ≠ Gen.prefixByte := fun h => hp h rfl
      exact instrLen_nonprefix this _ _
    | cons r rs => exact ⟨rfl, rfl⟩
  have hl : (b0 :: rest).length = rest.length + 1 := rfl
  have hdec : decodeLen b0 (rest ++ tl) = some (b0 :: rest).length := by
    unfold decodeLen
    simp only [hsame.1, hsame.2, List.length_append]
    rw [if_neg (by omega), hlen]
  rw [List.cons_append, disasmLoop, hdec]
  simp only
  rw [if_neg (by omega), if_neg (by simp only [List.length_cons, List.length_append]; omega)]
  have hd : (b0 :: (rest ++ tl)).drop (b0 :: rest).length = tl := by
    rw [← List.cons_append, List.drop_left]
  have ht : (b0 :: (rest ++ tl)).take (b0 :: rest).length = b0 :: rest := by
    rw [← List.cons_append, List.take_left]
  rw [hd, ht]
  cases disasmLoop fuel ((a + (b0 :: rest).length) % 65536) tl <;> rfl

theorem complete_length_pos {i : List Nat} (h : Complete i) : 1 ≤ i.length := by
  obtain ⟨b0, rest, rfl, _, _, _⟩ := h
  simp

/-- the loop over a concatenation of complete instructions produces the spec layout -/
theorem loop_tiles (is : List (List Nat)) (his : ∀ i ∈ is, Complete i) :
    ∀ (fuel a : Nat), is.flatten.length ≤ fuel → disasmLoop fuel a is.flatten = .ok ((layout a is).map ofItem) := by
  induction is with
  | nil => intro fuel a _; cases fuel <;> simp [disasmLoop, layout]
  | cons i is ih =>
    intro fuel a hfuel
    have hi := his i (List.mem_cons_self ..)
    have hpos := complete_length_pos hi
    rw [List.flatten_cons] at hfuel ⊢
    rw [List.length_append] at hfuel
    obtain ⟨f, rfl⟩ : ∃ f, fuel = f + 1 := ⟨fuel - 1, by omega⟩
    rw [loop_step f a i is.flatten hi,
      ih (fun j hj => his j (List.mem_cons_of_mem _ hj)) f _ (by omega)]
    simp [layout, ofItem]

/-- on arbitrary bytes the loop returns or stops on an out-of-range index; never `bytes4`, never `fuel` -/
theorem loop_total : ∀ (fuel a : Nat) (bs : List Nat), (∀ b ∈ bs, b < 256) → bs.length ≤ fuel →
    (∃ out, disasmLoop fuel a bs = .ok out) ∨ disasmLoop fuel a bs = .error .oob := by
  intro fuel
  induction fuel with
  | zero =>
    intro a bs _ hl
    have : bs = [] := List.eq_nil_of_length_eq_zero (by omega)
    subst this
    exact Or.inl ⟨[], by simp [disasmLoop]⟩
  | succ f ih =>
    intro a bs hb hl
    cases bs with
    | nil => exact Or.inl ⟨[], by simp [disasmLoop]⟩
    | cons b0 rest =>
      have h0 : b0 < 256 := hb b0 (List.mem_cons_self ..)
      have hrest : ∀ b ∈ rest, b < 256 := fun b hb' => hb b (List.mem_cons_of_mem _ hb')
      have hf := instr_facts h0 (headD_lt hrest)
      rw [disasmLoop]
      by_cases hr : rest.length < Gen.instrReads b0 (rest.headD 0)
      · have : decodeLen b0 rest = none := by unfold decodeLen; exact if_pos hr
        rw [this]; exact Or.inr rfl
      · have : decodeLen b0 rest = some (Gen.instrLen b0 (rest.headD 0)) := by unfold decodeLen; exact if_neg hr
        rw [this]
        simp only
        rw [if_neg (by omega)]
        by_cases hs : (b0 :: rest).length < Gen.instrLen b0 (rest.headD 0)
        · rw [if_pos hs]; exact Or.inr rfl
        · rw [if_neg hs]
          have hdl : ((b0 :: rest).drop (Gen.instrLen b0 (rest.headD 0))).length ≤ f := by
            rw [List.length_drop]; simp only [List.length_cons] at hl ⊢; omega
          have hdb : ∀ b ∈ (b0 :: rest).drop (Gen.instrLen b0 (rest.headD 0)), b < 256 :=
            fun b hb' => hb b (List.mem_of_mem_drop hb')
          rcases ih ((a + Gen.instrLen b0 (rest.headD 0)) % 65536) _ hdb hdl with ⟨out, ho⟩ | he
          · rw [ho]; exact Or.inl ⟨_, rfl⟩
          · rw [he]; exact Or.inr rfl

theorem layout_length (a : Nat) (is : List (List Nat)) : (layout a is).length = is.length := by
  induction is generalizing a with
  | nil => rfl
  | cons i is ih => simp [layout, ih]

theorem layout_sum (a : Nat) (is : List (List Nat)) :
    ((layout a is).map (·.length)).sum = is.flatten.length := by
  induction is generalizing a with
  | nil => rfl
  | cons i is ih => simp [layout, ih]

/-- the `k`-th listed instruction: starts at `a` + the bytes before it (mod 2^16), is the `k`-th instruction -/
theorem layout_get (a : Nat) (ha : a < 65536) (is : List (List Nat)) (k : Nat) (hk : k < is.length) :
    (layout a is)[k]? = some ⟨(a + (is.take k).flatten.length) % 65536, (is[k]'hk).length, is[k]'hk⟩ := by
  induction is generalizing a k with
  | nil => simp at hk
  | cons i is ih =>
    cases k with
    | zero => simp [layout, Nat.mod_eq_of_lt ha]
    | succ k =>
      simp only [layout, List.getElem?_cons_succ, List.take_succ_cons, List.flatten_cons, List.length_append,
        List.getElem_cons_succ]
      rw [ih ((a + i.length) % 65536) (Nat.mod_lt _ (by decide)) k (by simpa using hk)]
      congr 2
      omega

end GbVerif.DebugDisasm
