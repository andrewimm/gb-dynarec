import GbVerif.Model.Core
import GbVerif.Spec.Interrupt
import GbVerif.Proofs.BusIo
/-!
C07: `Core.handleInterrupt` (model of `Core::handle_interrupt`) equals the dispatch spec `InterruptSpec.dispatch`
on every well-formed state.  Bus facts used: IF / IE read back through 0xFF0F / 0xFFFF, every bus write keeps
IF and IE five-bit, and clearing one IF bit through a bus write equals the model's in-place mask.
-/
namespace GbVerif.CoreProofs
open GbVerif.Core GbVerif.Bus GbVerif.BusProofs

/-- the interrupt registers as the code keeps them: IF and IE five bits, the upper IE bits stored apart -/
structure IoInv (io : Io) : Prop where
  ifl : io.ifl < 32
  ie : io.ie < 32
  ieu : io.ieUpper % 32 = 0

/-- well-formed core state: bus buffers as `Bus.create` makes them, five-bit IF/IE, 16-bit SP and PC -/
structure WFc (c : Core.State) : Prop where
  io : IoInv c.bus.io
  bus : BusProofs.WF c.bus
  sp : c.regs.sp < 65536
  ip : c.regs.ip < 65536

theorem or_lt32 {x f : Nat} (hx : x < 32) (hf : f < 32) : x ||| f < 32 :=
  Nat.or_lt_two_pow (n := 5) hx hf

theorem and_1f_lt (v : Nat) : v &&& 0x1f < 32 := by
  have := Nat.and_two_pow_sub_one_eq_mod v 5
  simp only [show (2:Nat)^5 - 1 = 0x1f from rfl] at this; rw [this]; omega

theorem and_e0_mod (v : Nat) : (v &&& 0xe0) % 32 = 0 := by
  rw [show (32:Nat) = 2^5 from rfl, Nat.and_mod_two_pow]
  show v % 2^5 &&& 0 = 0
  exact Nat.and_zero _

theorem ie_or_mod {e u : Nat} (he : e < 32) (hu : u % 32 = 0) : (e ||| u) % 32 = e := by
  rw [show (32:Nat) = 2^5 from rfl, Nat.or_mod_two_pow, show (2:Nat)^5 = 32 from rfl, hu, Nat.mod_eq_of_lt he]
  exact Nat.or_zero _

theorem or_e0_mod (f : Nat) (hf : f < 32) : (f ||| 0xe0) % 32 = f := ie_or_mod hf rfl

/-- clearing bit `bit` of a five-bit IF by writing `f − (f / bit % 2)·bit` to 0xFF0F (which keeps the low five bits)
is the model's `&= !bit` -/
theorem clear_bit_eq : ∀ f, f < 32 → ∀ bit ∈ [1, 2, 4, 8, 16],
    (f - (f / bit % 2) * bit) &&& 0x1f = f &&& ((bit ^^^ 0xff) % 256) := by decide +kernel

theorem and_ff_id (f : Nat) (hf : f < 32) : f &&& ((0 ^^^ 0xff) % 256) = f := by
  show f &&& (2^8 - 1) = f
  rw [Nat.and_two_pow_sub_one_eq_mod]; omega

/-- the priority chain of the code is "first source in VBlank, STAT, Timer, Serial, Joypad order whose bit is set" -/
theorem chain_eq_find : ∀ p, p < 32 →
    InterruptSpec.sources.find? (fun s => p &&& s.1 ≠ 0) =
      (if p == 0 then none
       else if p &&& 1 != 0 then some (1, 0x40)
       else if p &&& 2 != 0 then some (2, 0x48)
       else if p &&& 4 != 0 then some (4, 0x50)
       else if p &&& 8 != 0 then some (8, 0x58)
       else some (16, 0x60)) := by decide +kernel

theorem and_lt32 {a b : Nat} (ha : a < 32) : a &&& b < 32 := Nat.lt_of_le_of_lt Nat.and_le_left ha

theorem read_if (s : Bus.State) : Bus.read s 0xff0f = .ok (s.io.ifl ||| 0xe0) := by
  rw [read_io s 0xff0f (by omega) (by omega)]; rfl

theorem write_if (s : Bus.State) (v : Nat) :
    Bus.write s 0xff0f v = .ok { s with io := { s.io with ifl := v &&& 0x1f } } := by
  rw [write_io s 0xff0f v (by omega) (by omega)]; rfl

/-- what the guest sees as IF ∧ IE is the code's `get_active_interrupts` -/
theorem pending_eq (s : Bus.State) (h : IoInv s.io) : InterruptSpec.pending s = .ok (activeInterrupts s) := by
  unfold InterruptSpec.pending activeInterrupts
  rw [read_if, read_ie _ 0xffff rfl]
  show Except.ok _ = _
  rw [or_e0_mod _ h.ifl, ie_or_mod h.ie h.ieu]

theorem ite_ind {α : Type} (P : α → Prop) {c : Prop} [Decidable c] {a b : α} (ha : P a) (hb : P b) : P (if c then a else b) := by
  split <;> assumption

theorem setControl_flag (t : TimerRegs) (v : Nat) : (t.setControl v).2 = 0 ∨ (t.setControl v).2 = 4 :=
  ite_ind (fun x : TimerRegs × Nat => x.2 = 0 ∨ x.2 = 4) (ite_ind (fun x : TimerRegs × Nat => x.2 = 0 ∨ x.2 = 4) (Or.inr rfl) (Or.inl rfl)) (Or.inl rfl)

theorem checkLine_flag (v : VideoRegs) : v.checkLine = 0 ∨ v.checkLine = 2 :=
  ite_ind (fun x => x = 0 ∨ x = 2) (Or.inr rfl) (Or.inl rfl)

theorem or_flag_lt {x f k : Nat} (h : x < 32) (hf : f = 0 ∨ f = k) (hk : k < 32) : x ||| f < 32 := by
  rcases hf with hf | hf <;> rw [hf]
  · exact (Nat.or_zero x).symm ▸ h
  · exact or_lt32 h hk

/-- no register write makes IF or IE wider than five bits (TAC / STAT / LYC writes OR in 4 or 2; IF writes mask) -/
theorem setByte_inv (io : Io) (a v : Nat) (h : IoInv io) : IoInv (io.setByte a v) := by
  obtain ⟨h1, h2, h3⟩ := h
  unfold Io.setByte
  split
  case h_7 => exact ⟨or_flag_lt h1 (setControl_flag io.timer v) (by omega), h2, h3⟩
  case h_8 => exact ⟨and_1f_lt v, h2, h3⟩
  case h_10 => exact ⟨or_flag_lt h1 (checkLine_flag _) (by omega), h2, h3⟩
  case h_13 => exact ⟨or_flag_lt h1 (checkLine_flag _) (by omega), h2, h3⟩
  all_goals exact ⟨h1, h2, h3⟩

theorem write_inv {s s' : Bus.State} (hi : IoInv s.io) {a v : Nat} (h : Bus.write s a v = .ok s') : IoInv s'.io := by
  rcases (write_effect h).io with e | e | e
  · rw [e]; exact hi
  · rw [e]; exact ⟨hi.ifl, and_1f_lt v, and_e0_mod v⟩
  · rw [e]; exact setByte_inv _ _ _ hi

theorem mod_64k (x : Nat) : x % 65536 < 65536 := Nat.mod_lt x (by decide)

theorem u32_dec (x : Nat) : (Interp.u32 (x + 4294967295) &&& 0xffff) = (x + 65535) % 65536 := by
  unfold Interp.u32
  rw [Nat.and_two_pow_sub_one_eq_mod _ 16]; omega

/-- the code's priority chain: (vector, IF bit to clear) -/
def chain (ints : Nat) : Nat × Nat :=
  if ints == 0 then (0x00, 0x00)
  else if ints &&& 1 != 0 then (0x40, 0x01)
  else if ints &&& 2 != 0 then (0x48, 0x02)
  else if ints &&& 4 != 0 then (0x50, 0x04)
  else if ints &&& 8 != 0 then (0x58, 0x08)
  else (0x60, 0x10)

/-- the state after a dispatch, given the bus after the high-byte push (`b1`), after the low-byte push (`b2`) and SP -/
def dispatched (c : Core.State) (b1 b2 : Bus.State) (sp2 : Nat) : Core.State :=
  { c with run := .Run, ime := .Disabled,
           bus := { b2 with io := { b2.io with ifl := b2.io.ifl &&& (((chain (activeInterrupts b1)).2 ^^^ 0xff) % 256) } },
           regs := { c.regs with sp := sp2, cycles := c.regs.cycles + 5, ip := (chain (activeInterrupts b1)).1 },
           charged := c.charged + 5 }

theorem handleInterrupt_unfold (c : Core.State) : handleInterrupt c =
    if activeInterrupts c.bus == 0 then .ok c
    else if c.ime != .Enabled then .ok { c with run := .Run }
    else
      Bus.write c.bus ((Interp.u32 (c.regs.sp + 4294967295) &&& 0xffff) % 65536) ((c.regs.ip >>> 8) % 256) >>= fun b1 =>
      Bus.write b1 ((Interp.u32 ((Interp.u32 (c.regs.sp + 4294967295) &&& 0xffff) + 4294967295) &&& 0xffff) % 65536)
        (c.regs.ip &&& 0xff) >>= fun b2 =>
      .ok (dispatched c b1 b2 (Interp.u32 ((Interp.u32 (c.regs.sp + 4294967295) &&& 0xffff) + 4294967295) &&& 0xffff)) := rfl

theorem handleInterrupt_idle (c : Core.State) (h0 : activeInterrupts c.bus = 0) : handleInterrupt c = .ok c := by
  rw [handleInterrupt_unfold, if_pos (beq_eq h0)]

theorem handleInterrupt_masked (c : Core.State) (h0 : activeInterrupts c.bus ≠ 0) (hi : c.ime ≠ .Enabled) :
    handleInterrupt c = .ok { c with run := .Run } := by
  rw [handleInterrupt_unfold, if_neg (beq_ne h0), if_pos (bne_iff_ne.mpr hi)]

theorem handleInterrupt_enabled (c : Core.State) (h0 : activeInterrupts c.bus ≠ 0) (hi : c.ime = .Enabled) :
    handleInterrupt c =
      Bus.write c.bus ((Interp.u32 (c.regs.sp + 4294967295) &&& 0xffff) % 65536) ((c.regs.ip >>> 8) % 256) >>= fun b1 =>
      Bus.write b1 ((Interp.u32 ((Interp.u32 (c.regs.sp + 4294967295) &&& 0xffff) + 4294967295) &&& 0xffff) % 65536)
        (c.regs.ip &&& 0xff) >>= fun b2 =>
      .ok (dispatched c b1 b2 (Interp.u32 ((Interp.u32 (c.regs.sp + 4294967295) &&& 0xffff) + 4294967295) &&& 0xffff)) := by
  rw [handleInterrupt_unfold, if_neg (beq_ne h0), if_neg (by rw [hi]; decide)]

theorem handleInterrupt_closed (c : Core.State) (h : WFc c) (h0 : activeInterrupts c.bus ≠ 0) (hi : c.ime = .Enabled)
    {b1 b2 : Bus.State} (hb1 : Bus.write c.bus ((c.regs.sp + 65535) % 65536) (c.regs.ip / 256) = .ok b1)
    (hb2 : Bus.write b1 ((c.regs.sp + 65534) % 65536) (c.regs.ip % 256) = .ok b2) :
    handleInterrupt c = .ok (dispatched c b1 b2 ((c.regs.sp + 65534) % 65536)) := by
  have hip := h.ip
  have e2 : (Interp.u32 ((c.regs.sp + 65535) % 65536 + 4294967295) &&& 0xffff) = (c.regs.sp + 65534) % 65536 := by
    rw [u32_dec]; omega
  have e3 : (c.regs.ip >>> 8) % 256 = c.regs.ip / 256 := by rw [Nat.shiftRight_eq_div_pow]; omega
  rw [handleInterrupt_enabled c h0 hi, u32_dec, e2, e3, and_ff, Nat.mod_mod, Nat.mod_mod]
  exact (bind_ok hb1 _).trans (bind_ok hb2 _)

theorem handleInterrupt_taken (c : Core.State) (h : WFc c) (h0 : activeInterrupts c.bus ≠ 0) (hi : c.ime = .Enabled) :
    ∃ b1 b2, Bus.write c.bus ((c.regs.sp + 65535) % 65536) (c.regs.ip / 256) = .ok b1 ∧
      Bus.write b1 ((c.regs.sp + 65534) % 65536) (c.regs.ip % 256) = .ok b2 ∧
      IoInv b1.io ∧ IoInv b2.io ∧ BusProofs.WF b2 ∧
      handleInterrupt c = .ok (dispatched c b1 b2 ((c.regs.sp + 65534) % 65536)) := by
  obtain ⟨b1, hb1⟩ := write_total h.bus (c.regs.ip / 256) (show (c.regs.sp + 65535) % 65536 < 65536 from mod_64k _)
  obtain ⟨b2, hb2⟩ := write_total (wf_write h.bus hb1) (c.regs.ip % 256)
    (show (c.regs.sp + 65534) % 65536 < 65536 from mod_64k _)
  have hio1 := write_inv h.io hb1
  have hbus1 := wf_write h.bus hb1
  exact ⟨b1, b2, hb1, hb2, hio1, write_inv hio1 hb2, wf_write hbus1 hb2,
    handleInterrupt_closed c h h0 hi hb1 hb2⟩

/-- the three outcomes from a well-formed state; a dispatch is the two pushes, which succeed -/
theorem handleInterrupt_cases {c c' : Core.State} (h : WFc c) (hc : handleInterrupt c = .ok c') :
    (activeInterrupts c.bus = 0 ∧ c' = c) ∨
    (activeInterrupts c.bus ≠ 0 ∧ c.ime ≠ .Enabled ∧ c' = { c with run := .Run }) ∨
    (activeInterrupts c.bus ≠ 0 ∧ c.ime = .Enabled ∧ ∃ b1 b2,
      Bus.write c.bus ((c.regs.sp + 65535) % 65536) (c.regs.ip / 256) = .ok b1 ∧
      Bus.write b1 ((c.regs.sp + 65534) % 65536) (c.regs.ip % 256) = .ok b2 ∧
      IoInv b1.io ∧ IoInv b2.io ∧ BusProofs.WF b2 ∧ c' = dispatched c b1 b2 ((c.regs.sp + 65534) % 65536)) := by
  by_cases h0 : activeInterrupts c.bus = 0
  · exact Or.inl ⟨h0, ok_inj hc (handleInterrupt_idle c h0)⟩
  by_cases hi : c.ime = .Enabled
  · obtain ⟨b1, b2, w1, w2, i1, i2, wf2, e⟩ := handleInterrupt_taken c h h0 hi
    exact Or.inr (Or.inr ⟨h0, hi, b1, b2, w1, w2, i1, i2, wf2, ok_inj hc e⟩)
  · exact Or.inr (Or.inl ⟨h0, hi, ok_inj hc (handleInterrupt_masked c h0 hi)⟩)

/-- IF with the bits of `m` cleared, in place (what `interrupt_flag.clear(m)` does) -/
def clr (b : Bus.State) (m : Nat) : Bus.State := { b with io := { b.io with ifl := b.io.ifl &&& ((m ^^^ 0xff) % 256) } }

theorem clr_zero (b : Bus.State) (h : IoInv b.io) : clr b 0 = b := by
  unfold clr; rw [and_ff_id _ h.ifl]

theorem clear_via_bus (b : Bus.State) (h : IoInv b.io) (bit : Nat) (hb : bit ∈ [1, 2, 4, 8, 16]) {γ : Type}
    (k : Bus.State → Except Bus.Panic γ) :
    (Bus.read b 0xff0f >>= fun f => Bus.write b 0xff0f (f % 32 - (f % 32 / bit % 2) * bit) >>= fun b' => k b') = k (clr b bit) := by
  refine (bind_ok (read_if b) _).trans ?_
  refine (bind_ok (write_if b _) _).trans ?_
  show k _ = k _
  rw [or_e0_mod _ h.ifl, clear_bit_eq _ h.ifl bit hb]; rfl

theorem tail_eq {γ : Type} (b2 : Bus.State) (hio2 : IoInv b2.io) (p' : Nat) (hp : p' < 32)
    (k : Bus.State × Nat → Except Bus.Panic γ) :
    (match InterruptSpec.sources.find? (fun s => decide (p' &&& s.1 ≠ 0)) with
     | some (bit, vector) =>
       (Bus.read b2 0xff0f >>= fun f => Bus.write b2 0xff0f (f % 32 - (f % 32 / bit % 2) * bit) >>= fun b => k (b, vector))
     | none => k (b2, 0)) = k (clr b2 (chain p').2, (chain p').1) := by
  rw [chain_eq_find p' hp]
  unfold chain
  by_cases c0 : (p' == 0) = true
  · rw [if_pos c0, if_pos c0]; show k _ = k _; rw [clr_zero b2 hio2]
  rw [if_neg c0, if_neg c0]
  by_cases c1 : (p' &&& 1 != 0) = true
  · rw [if_pos c1, if_pos c1]; exact clear_via_bus b2 hio2 1 (by decide) (fun b => k (b, 0x40))
  rw [if_neg c1, if_neg c1]
  by_cases c2 : (p' &&& 2 != 0) = true
  · rw [if_pos c2, if_pos c2]; exact clear_via_bus b2 hio2 2 (by decide) (fun b => k (b, 0x48))
  rw [if_neg c2, if_neg c2]
  by_cases c3 : (p' &&& 4 != 0) = true
  · rw [if_pos c3, if_pos c3]; exact clear_via_bus b2 hio2 4 (by decide) (fun b => k (b, 0x50))
  rw [if_neg c3, if_neg c3]
  by_cases c4 : (p' &&& 8 != 0) = true
  · rw [if_pos c4, if_pos c4]; exact clear_via_bus b2 hio2 8 (by decide) (fun b => k (b, 0x58))
  rw [if_neg c4, if_neg c4]
  exact clear_via_bus b2 hio2 16 (by decide) (fun b => k (b, 0x60))

theorem dispatch_closed (c : Core.State) (h : WFc c) (h0 : activeInterrupts c.bus ≠ 0) (hi : c.ime = .Enabled)
    {b1 b2 : Bus.State} (hb1 : Bus.write c.bus ((c.regs.sp + 65535) % 65536) (c.regs.ip / 256) = .ok b1)
    (hb2 : Bus.write b1 ((c.regs.sp + 65534) % 65536) (c.regs.ip % 256) = .ok b2) :
    InterruptSpec.dispatch c = .ok (dispatched c b1 b2 ((c.regs.sp + 65534) % 65536)) := by
  obtain ⟨hio, hbus, hsp, hip⟩ := h
  have hio1 := write_inv hio hb1
  have hio2 := write_inv hio1 hb2
  unfold InterruptSpec.dispatch
  refine (bind_ok (pending_eq _ hio) _).trans ?_
  rw [if_neg h0]
  dsimp only
  rw [if_neg (by rw [hi]; exact fun h => h rfl)]
  rw [Nat.mod_eq_of_lt hsp, Nat.mod_eq_of_lt hip]
  refine (bind_ok hb1 _).trans ?_
  refine (bind_ok (pending_eq _ hio1) _).trans ?_
  refine (bind_ok hb2 _).trans ?_
  refine (tail_eq b2 hio2 (activeInterrupts b1) (and_lt32 hio1.ifl) (fun x : Bus.State × Nat => (.ok
    { c with run := .Run, ime := .Disabled, bus := x.1, charged := c.charged + 5,
             regs := { c.regs with sp := (c.regs.sp + 65534) % 65536, ip := x.2, cycles := c.regs.cycles + 5 } }
      : Except Bus.Panic Core.State))).trans ?_
  rfl

/-- **C07**: on every well-formed state the model of `Core::handle_interrupt` is the dispatch spec -/
theorem dispatch_spec (c : Core.State) (h : WFc c) : handleInterrupt c = InterruptSpec.dispatch c := by
  by_cases h0 : activeInterrupts c.bus = 0
  · rw [handleInterrupt_idle c h0]
    unfold InterruptSpec.dispatch
    refine ((bind_ok (pending_eq _ h.io) _).trans ?_).symm
    rw [if_pos h0]; rfl
  by_cases hi : c.ime = .Enabled
  · obtain ⟨b1, b2, hb1, hb2, _, _, _, e⟩ := handleInterrupt_taken c h h0 hi
    rw [e, dispatch_closed c h h0 hi hb1 hb2]
  · rw [handleInterrupt_masked c h0 hi]
    unfold InterruptSpec.dispatch
    refine ((bind_ok (pending_eq _ h.io) _).trans ?_).symm
    rw [if_neg h0]
    dsimp only
    rw [if_pos hi]; rfl

/-- the chain picks the lowest set bit `i` of the sampled value: vector 0x40 + 8·i, IF bit 2^i -/
theorem chain_lowest : ∀ p, p < 32 → p ≠ 0 →
    ∃ i, i < 5 ∧ (p / 2^i % 2 = 1 ∧ (∀ j, j < i → p / 2^j % 2 = 0) ∧ chain p = (0x40 + 8 * i, 2^i)) := by decide +kernel

theorem chain_zero : chain 0 = (0, 0) := rfl

/-- masking with `!2^i` removes exactly bit `i` (if set) from a five-bit value -/
theorem mask_bit : ∀ f, f < 32 → ∀ i, i < 5 → f &&& (((2^i) ^^^ 0xff) % 256) = f - (f / 2^i % 2) * 2^i := by decide +kernel

theorem chain_vector_mem (p : Nat) : (chain p).1 ∈ [0x00, 0x40, 0x48, 0x50, 0x58, 0x60] := by
  unfold chain
  repeat' apply ite_ind (fun x : Nat × Nat => x.1 ∈ [0x00, 0x40, 0x48, 0x50, 0x58, 0x60])
  all_goals decide

/-- `dispatched` keeps the interrupt registers and the buffers well-formed -/
theorem wfc_dispatched (c : Core.State) (b1 b2 : Bus.State) (h2 : IoInv b2.io) (w2 : BusProofs.WF b2) (sp2 : Nat) (hs : sp2 < 65536) :
    WFc (dispatched c b1 b2 sp2) := by
  refine ⟨⟨and_lt32 h2.ifl, h2.ie, h2.ieu⟩, ⟨w2.vram, w2.wram, w2.oam, w2.hram, w2.romLen, w2.banks⟩, hs, ?_⟩
  have := chain_vector_mem (activeInterrupts b1)
  simp only [List.mem_cons, List.not_mem_nil, or_false] at this
  show (chain (activeInterrupts b1)).1 < 65536
  omega

end GbVerif.CoreProofs
