import GbVerif.Proofs.X86SimMemAlu
import GbVerif.Proofs.X86SimInc
import GbVerif.Proofs.X86SimRot
/-
C01, the bus side: read-modify-write on (HL) — RES / SET b,(HL), SLA / SRA / SRL (HL), INC / DEC (HL), SWAP (HL),
RLC / RRC (HL).  The template reads (HL) into dl and reloads AF into ax (`rmwPre`), runs the REGISTER form of the operation on
dl, the host location of E, and writes dl back, patching the saved F with al (`rmwPost`).  `rmw_wrap` is that sandwich around
any middle, `rmw_sim` the same for an operation given as a byte result and a flags part (`FlagOp`) with the interpreter's
`rmwHL` clause added; the bodies of the register forms are used as they were proved.  `SimulatesCbMem` (and `SimulatesCbMemS`,
for a middle that uses r14b as scratch) is `SimulatesMem` for a CB-prefixed encoding.
-/
namespace GbVerif.X86
open GbVerif.JitCycles GbVerif.Interp
variable {β : Type}

theorem step_load_eq (B : BusOps β) (s s1 : St β) (sz : Size) (d off len : Nat) (w : W) (hj : off % 8 + bitsOf sz / 8 ≤ 8)
    (hw : s.stack[off / 8]? = some w) (h : step B s (.load sz d 4 off) len = .ok s1) :
    s1 = setSz ({ s with pc := s.pc + len } : St β) sz d (w.toNat / 2 ^ (8 * (off % 8)) % 2 ^ (8 * (bitsOf sz / 8))) := by
  have hr : stackRead ({ s with pc := s.pc + len } : St β) off (bitsOf sz / 8) = .ok (w.toNat / 2 ^ (8 * (off % 8)) % 2 ^ (8 * (bitsOf sz / 8))) := by
    unfold stackRead
    simp only []
    rw [if_neg (by omega)]
    show (match s.stack[off / 8]? with | some w => _ | none => _) = _
    rw [hw]
  have e : step B s (.load sz d 4 off) len =
      (do let v ← stackRead ({ s with pc := s.pc + len } : St β) off (bitsOf sz / 8); pure (setSz ({ s with pc := s.pc + len } : St β) sz d v)) := rfl
  rw [e, hr] at h
  injection h with h
  exact h.symm

theorem step_load_slot (B : BusOps β) (s s1 : St β) (sz : Size) (d off len : Nat) (w : W) (h8 : off % 8 = 0) (hsz : sz = .w ∨ sz = .q)
    (hd : d < s.r.size) (hw : s.stack[off / 8]? = some w) (h : step B s (.load sz d 4 off) len = .ok s1) :
    (get s1 d).toNat % 65536 = w.toNat % 65536 ∧ (∀ j, d ≠ j → get s1 j = get s j) ∧ s1.stack = s.stack ∧ s1.bus = s.bus ∧
      s1.r.size = s.r.size := by
  obtain rfl := step_load_eq B s s1 sz d off len w (by rw [h8]; rcases hsz with rfl | rfl <;> decide) hw h
  refine ⟨?_, fun j hj => get_setSz_ne _ _ _ _ _ hj, stack_setSz _ _ _ _, bus_setSz _ _ _ _, size_setSz _ _ _ _⟩
  rw [h8]
  have := w.isLt
  have := (get s d).isLt
  rcases hsz with rfl | rfl
  · rw [toNat_setSz_w ({ s with pc := s.pc + len } : St β) _ _ hd]
    show ((get s d).toNat - (get s d).toNat % 65536 + w.toNat / 1 % 65536 % 65536) % 2 ^ 64 % 65536 = _
    omega
  · show (get (set _ d (BitVec.ofNat 64 (w.toNat / 1 % 2 ^ 64))) d).toNat % 65536 = _
    rw [get_set_eq ({ s with pc := s.pc + len } : St β) _ _ hd, BitVec.toNat_ofNat]
    omega

theorem step_poke_f (B : BusOps β) (s s1 : St β) (len : Nat) (d2 d1 d0 : W) (rest : List W) (hk : s.stack = d2 :: d1 :: d0 :: rest)
    (h : step B s (.store8 4 16 (.lo 0)) len = .ok s1) :
    ∃ d0' : W, s1.stack = d2 :: d1 :: d0' :: rest ∧ d0'.toNat % 65536 = (d0.toNat / 256 % 256) * 256 + (get s 0).toNat % 256 ∧
      (∀ j, get s1 j = get s j) ∧ s1.bus = s.bus ∧ s1.r.size = s.r.size := by
  obtain ⟨r1, b1, z1, k1⟩ := step_store8_stack B s s1 16 _ (.lo 0) d0 (by decide) (by rw [hk]; rfl) h
  refine ⟨_, by rw [k1, hk]; rfl, ?_, r1, b1, z1⟩
  rw [BitVec.toNat_ofNat]
  have := d0.isLt
  show (d0.toNat - d0.toNat / 1 % 256 * 1 + (get s 0).toNat % 256 % 256 * 1) % 2 ^ 64 % 65536 = _
  omega

/-- `push rax rcx rdx ; mov rsi, rcx ; movabs rdi, base ; movabs rax, memory_read_byte ; call rax ; mov rdx, rax ;
mov ax, [rsp+16]` -/
def rmwPre : List (Nat × Instr) :=
  [(0, Instr.push 0), (1, Instr.push 1), (2, Instr.push 2), (3, Instr.mov Size.q 6 1), (6, Instr.movabs 7 512), (16, Instr.movabs 0 513),
   (26, Instr.callRax), (28, Instr.mov Size.q 2 0), (31, Instr.load Size.w 0 4 16)]

/-- `mov [rsp+16], al ; mov rsi, [rsp+8] ; movabs rdi, base ; movabs rax, memory_write_byte ; call rax ; pop rdx rcx rax` -/
def rmwPost (o : Nat → Nat) : List (Nat × Instr) :=
  [(o 0, Instr.store8 4 16 (R8.lo 0)), (o 1, Instr.load Size.q 6 4 8), (o 2, Instr.movabs 7 512), (o 3, Instr.movabs 0 514),
   (o 4, Instr.callRax), (o 5, Instr.pop 2), (o 6, Instr.pop 1), (o 7, Instr.pop 0)]

theorem rmw_pre (B : BusOps β) (hB : ByteReads B) (e : Nat) (g : Regs) (st sa : St β) (hs : Sim g st)
    (hex : execList B e rmwPre st = .ok sa) :
    ∃ v, B.read st.bus (getReg16 g .HL) = .ok v ∧ v < 256 ∧ (get sa 2).toNat % 256 = v ∧
      (get sa 0).toNat % 65536 = g.af % 65536 ∧ (∀ j, j ∉ [0, 1, 2, 6, 7, 8, 9, 10, 11] → get sa j = get st j) ∧
      sa.stack = get st 2 :: get st 1 :: get st 0 :: st.stack ∧ sa.bus = st.bus ∧ sa.r.size = 16 := by
  have hex : execList B e ((pushAll [(0, 0), (1, 1), (2, 2)] ++ ([(3, Instr.mov Size.q 6 1)] ++
      ([(6, Instr.movabs 7 512), (16, Instr.movabs 0 513), (26, Instr.callRax)] ++ [(28, Instr.mov Size.q 2 0)]))) ++
        [(31, Instr.load Size.w 0 4 16)]) st = .ok sa := hex
  obtain ⟨s8, hrd, hld⟩ := execList_append B e _ _ st sa hex
  obtain ⟨v, hrd, hv, hdl, r8, k8, b8, z8⟩ := exec_read_dl B hB _ _ _ _ _ _ _ g st s8 hs hrd
  obtain ⟨v9, r9, k9, b9, z9⟩ := step_load_slot B s8 sa .w 0 16 _ (get st 0) rfl (Or.inl rfl) (by omega) (by rw [k8]; rfl)
    (execList_one B hld)
  exact ⟨v, hrd, hv, by rw [r9 2 (by decide)]; exact hdl, v9.trans hs.af,
    fun j hj => (r9 j (fun e => hj (e ▸ by decide))).trans (r8 j hj), k9.trans k8, b9.trans b8, z9.trans z8⟩

theorem rmw_post (B : BusOps β) (o : Nat → Nat) (e : Nat) (sb s' : St β) (d2 d1 d0 : W) (rest : List W)
    (hk : sb.stack = d2 :: d1 :: d0 :: rest) (hsz : sb.r.size = 16) (hex : execList B e (rmwPost o) sb = .ok s') :
    B.write sb.bus (d1.toNat % 65536) ((get sb 2).toNat % 256) = .ok s'.bus ∧ get s' 2 = d2 ∧ get s' 1 = d1 ∧
    (get s' 0).toNat % 65536 = (d0.toNat / 256 % 256) * 256 + (get sb 0).toNat % 256 ∧
    (∀ j, j ∉ [0, 1, 2, 6, 7, 8, 9, 10, 11] → get s' j = get sb j) ∧ s'.stack = rest ∧ s'.r.size = 16 := by
  have hex : execList B e ((o 0, Instr.store8 4 16 (R8.lo 0)) :: (o 1, Instr.load Size.q 6 4 8) :: (o 2, Instr.movabs 7 512) ::
      ([(o 3, Instr.movabs 0 514), (o 4, Instr.callRax)] ++ popAll [(o 5, 2), (o 6, 1), (o 7, 0)])) sb = .ok s' := hex
  obtain ⟨s1, h1, hex⟩ := execList_cons B _ _ _ _ _ _ hex
  obtain ⟨s2, h2, hex⟩ := execList_cons B _ _ _ _ _ _ hex
  obtain ⟨s3, h3, hex⟩ := execList_cons B _ _ _ _ _ _ hex
  obtain ⟨d0', k1, hd0, r1, b1, z1⟩ := step_poke_f B sb s1 _ d2 d1 d0 rest hk h1
  obtain ⟨v2, r2, k2, b2, z2⟩ := step_load_slot B s1 s2 .q 6 8 _ d1 rfl (Or.inr rfl) (by omega) (by rw [k1]; rfl) h2
  obtain ⟨v3, r3, b3, k3, z3⟩ := step_movabs B s2 s3 7 512 _ (by omega) h3
  obtain ⟨hwr, k', z', rp, rf⟩ := exec_write_pop B (fun j => [d0', d1, d2].getD j 0) rest [(o 5, 2), (o 6, 1), (o 7, 0)] _ _ e s3 s'
    (by rw [z3, z2, z1]; exact hsz) (by rw [k3, k2, k1]; rfl) (by simp) hex
  rw [r3 6 (by decide), v2, r3 2 (by decide), r2 2 (by decide), r1 2, b3, b2, b1] at hwr
  refine ⟨hwr, rp 2 (by simp), rp 1 (by simp), by rw [rp 0 (by simp)]; exact hd0, fun j hj => ?_, k', z'⟩
  rw [rf j (fun hm => hj ((by decide : ∀ x ∈ [2, 1, 0], x ∈ [0, 1, 2, 6, 7, 8, 9, 10, 11]) j hm)) hj, r3 j (fun e => hj (e ▸ by decide)),
    r2 j (fun e => hj (e ▸ by decide)), r1 j]

/-- the read prefix, then the register form `mid` of an operation, run from a register file whose E is the byte read -/
theorem rmw_head (B : BusOps β) (hB : ByteReads B) {mid : List (Nat × Instr)} {e : Nat} {fr : Regs → Regs} {P : Regs → Prop}
    (hP : ∀ g1 g2 : Regs, g1.af = g2.af → P g1 → P g2) {R : W → W → Prop}
    (hbody : ∀ (g' : Regs) (st0 s1 : St β), Sim g' st0 → P g' → execList B e mid st0 = .ok s1 →
      Sim (fr g') s1 ∧ s1.bus = st0.bus ∧ s1.stack = st0.stack ∧ R (get st0 14) (get s1 14))
    {g : Regs} {st sb : St β} (hs : Sim g st) (hPg : P g) (hex : execList B e (rmwPre ++ mid) st = .ok sb) :
    ∃ v d h, B.read st.bus (getReg16 g .HL) = .ok v ∧ getReg { g with de := d, hl := h } .E = v ∧
      Sim (fr { g with de := d, hl := h }) sb ∧ sb.bus = st.bus ∧ sb.stack = get st 2 :: get st 1 :: get st 0 :: st.stack ∧
      R (get st 14) (get sb 14) := by
  obtain ⟨sa, hpre, hbd⟩ := execList_append B _ _ rmwPre st sb hex
  obtain ⟨v, hrd, _, hdl, haf, hrest, hk, hb, hsz⟩ := rmw_pre B hB _ g st sa hs hpre
  have hsa : Sim ({ g with de := (get sa 2).toNat, hl := (get sa 1).toNat } : Regs) sa :=
    ⟨haf, rfl, rfl, by rw [hrest 3 (by decide)]; exact hs.bc,
     by rw [hrest 12 (by decide)]; exact hs.sp, by rw [hrest 13 (by decide)]; exact hs.ip, by rw [hrest 15 (by decide)]; exact hs.cy, hsz⟩
  obtain ⟨hsb, hubb, hubk, hR⟩ := hbody _ sa sb hsa (hP g _ rfl hPg) hbd
  exact ⟨v, _, _, hrd, hdl, hsb, hubb.trans hb, hubk.trans hk, hrest 14 (by decide) ▸ hR⟩

/-- `gb` is related to the state before `rmwPost`; `gf`, with the flags of `gb` and everything else of `g`, to the state after -/
theorem sim_after_post {g gb gf : Regs} {st sb s' : St β} (hs : Sim g st) (hsb : Sim gb sb) (haf : gb.af = gf.af)
    (hkeep : gb.bc = g.bc ∧ gb.sp = g.sp ∧ gb.ip = g.ip ∧ gb.cycles = g.cycles) (hsame : SameButAf g gf)
    (hA : gf.af % 65536 / 256 = g.af % 65536 / 256) (h2 : get s' 2 = get st 2) (h1 : get s' 1 = get st 1)
    (h0 : (get s' 0).toNat % 65536 = ((get st 0).toNat / 256 % 256) * 256 + (get sb 0).toNat % 256)
    (hr : ∀ j, j ∉ [0, 1, 2, 6, 7, 8, 9, 10, 11] → get s' j = get sb j) (hz : s'.r.size = 16) : Sim gf s' := by
  obtain ⟨q1, q2, q3, q4, q5, q6⟩ := hsame
  obtain ⟨f1, f2, f3, f4⟩ := hkeep
  refine ⟨?_, ?_, ?_, ?_, ?_, ?_, ?_, hz⟩
  · have hb := hsb.af
    have ha := hs.af
    rw [haf] at hb
    omega
  · rw [h1, q3]; exact hs.hl
  · rw [h2, q2]; exact hs.de
  · rw [hr 3 (by decide), hsb.bc, f1, q1]
  · rw [hr 12 (by decide), hsb.sp, f2, q4]
  · rw [hr 13 (by decide), hsb.ip, f3, q5]
  · rw [hr 15 (by decide), hsb.cy, f4, q6]

/-- read (HL) into dl, run the REGISTER form of an operation on E (= dl) with AF in ax, write dl back: the interpreter's
read-modify-write with the (HL) form `fi` of the operation -/
theorem rmw_wrap (B : BusOps β) (hB : ByteReads B) (mid : List (Nat × Instr)) (o : Nat → Nat) (e : Nat)
    (fr : Regs → Regs) (fi : Nat → Regs → Nat × Regs) (P : Regs → Prop) (hP : ∀ g1 g2 : Regs, g1.af = g2.af → P g1 → P g2)
    (H1 : ∀ g', getReg (fr g') .E = (fi (getReg g' .E) g').1)
    (H2 : ∀ g', (fr g').af = (fi (getReg g' .E) g').2.af)
    (H3 : ∀ (g1 g2 : Regs) v, g1.af = g2.af → (fi v g1).1 = (fi v g2).1 ∧ (fi v g1).2.af = (fi v g2).2.af)
    (H4 : ∀ v g, SameButAf g (fi v g).2)
    (H5 : ∀ v (g : Regs), (fi v g).2.af % 65536 / 256 = g.af % 65536 / 256)
    (H6 : ∀ g', (fr g').bc = g'.bc ∧ (fr g').sp = g'.sp ∧ (fr g').ip = g'.ip ∧ (fr g').cycles = g'.cycles)
    (R : W → W → Prop)
    (hbody : ∀ (g' : Regs) (st0 s1 : St β), Sim g' st0 → P g' → execList B (headOff e (rmwPost o)) mid st0 = .ok s1 →
      Sim (fr g') s1 ∧ s1.bus = st0.bus ∧ s1.stack = st0.stack ∧ R (get st0 14) (get s1 14))
    (g : Regs) (st s' : St β) (hs : Sim g st) (hPg : P g)
    (hex : execList B e ((rmwPre ++ mid) ++ rmwPost o) st = .ok s') :
    ∃ v, B.read st.bus (getReg16 g .HL) = .ok v ∧ B.write st.bus (getReg16 g .HL) (fi v g).1 = .ok s'.bus ∧
      Sim (fi v g).2 s' ∧ s'.stack = st.stack ∧ R (get st 14) (get s' 14) := by
  obtain ⟨sb, hex1, hexp⟩ := execList_append B e _ _ st s' hex
  obtain ⟨v, d, h, hrd, hE, hsb, hb, hk, hR⟩ := rmw_head B hB hP hbody hs hPg hex1
  obtain ⟨hwr, g2, g1, g0, hr', hk', hz'⟩ := rmw_post B o e sb s' _ _ _ _ hk hsb.size hexp
  have hval : (get sb 2).toNat % 256 = (fi v g).1 :=
    (get8_sim hsb .E).trans ((H1 _).trans (hE ▸ (H3 { g with de := d, hl := h } g v rfl).1))
  have hHL : (get st 1).toNat % 65536 = getReg16 g .HL := hs.hl
  rw [hHL, hval, hb] at hwr
  exact ⟨v, hrd, hwr, sim_after_post hs hsb ((H2 _).trans (hE ▸ (H3 { g with de := d, hl := h } g v rfl).2)) (H6 _) (H4 v g) (H5 v g) g2 g1 g0 hr' hz', hk',
    hr' 14 (by decide) ▸ hR⟩

/-- `SimulatesMem` for a CB-prefixed encoding -/
def SimulatesCbMem (b1 b2 : Nat) : Prop :=
  ∃ code, decodeCode (Gen.emitCb b1) = some code ∧
  ∀ (β : Type) (B : BusOps β), ByteReads B → ∀ (g : Regs) (fuel : Nat) (st st' : St β), Sim g st → st.pc = 0 →
    run B code (bytesOf (Gen.emitCb b1)) fuel st = .ok st' →
    ∃ g' m', runOp B (Gen.decode 0xcb b1 b2).1 g st.bus (Gen.decode 0xcb b1 b2).2.1 = .ok (g', m', STATUS_NORMAL) ∧
      Sim { g' with cycles := g'.cycles + (Gen.decode 0xcb b1 b2).2.2 / 4 } st' ∧ st'.bus = m' ∧ st'.stack = st.stack ∧ get st' 14 = get st 14

/-- the CB-page twin of `simulatesMem_of_body`; `R` relates the status register before and after -/
theorem simulatesCbMem_of_body (P : Regs → Prop) (R : W → W → Prop) {b1 b2 : Nat} {body : List (Nat × Instr)}
    {o1 o2 e n c k : Nat} {op : Op}
    (htab : decodeCode (Gen.emitCb b1) = some (body ++ [(o1, addIp n), (o2, addCy c)]) ∧ bytesOf (Gen.emitCb b1) = e ∧
      Gen.decode 0xcb b1 b2 = (op, n, k))
    (hnj : noJump body = true) (hn : n < 128) (hc : c < 128) (hk : k / 4 = c)
    (hbody : ∀ {β : Type} (B : BusOps β), ByteReads B → ∀ (g : Regs) (st s1 : St β), Sim g st → P g →
      execList B o1 body st = .ok s1 →
      ∃ g1 m', runOp B op g st.bus n = .ok (advance g1 n, m', STATUS_NORMAL) ∧ Sim g1 s1 ∧ s1.bus = m' ∧ s1.stack = st.stack ∧
        R (get st 14) (get s1 14)) :
    ∃ code, decodeCode (Gen.emitCb b1) = some code ∧
    ∀ (β : Type) (B : BusOps β), ByteReads B → ∀ (g : Regs) (fuel : Nat) (st st' : St β), Sim g st → P g → st.pc = 0 →
      run B code (bytesOf (Gen.emitCb b1)) fuel st = .ok st' →
      ∃ g' m', runOp B (Gen.decode 0xcb b1 b2).1 g st.bus (Gen.decode 0xcb b1 b2).2.1 = .ok (g', m', STATUS_NORMAL) ∧
        Sim { g' with cycles := g'.cycles + (Gen.decode 0xcb b1 b2).2.2 / 4 } st' ∧ st'.bus = m' ∧ st'.stack = st.stack ∧
        R (get st 14) (get st' 14) := by
  obtain ⟨code, hdec, hrun⟩ := template_run htab.1 hnj hn hc
  refine ⟨code, hdec, fun β B hB g fuel st st' hsim hP hpc hr => ?_⟩
  obtain ⟨s1, hex, hu, htail⟩ := hrun β B fuel st st' hpc hr
  obtain ⟨g1, m', hi, hs1, hb, hk1, h14⟩ := hbody B hB g st s1 hsim hP hex
  rw [htab.2.2]
  exact ⟨_, m', hi, hk ▸ htail g1 hs1, hu.bus.trans hb, hu.stack.trans hk1, hu.r14 ▸ h14⟩

theorem simulatesCbMem_of_body_all (R : W → W → Prop) {b1 b2 : Nat} {body : List (Nat × Instr)} {o1 o2 e n c k : Nat} {op : Op}
    (htab : decodeCode (Gen.emitCb b1) = some (body ++ [(o1, addIp n), (o2, addCy c)]) ∧ bytesOf (Gen.emitCb b1) = e ∧
      Gen.decode 0xcb b1 b2 = (op, n, k))
    (hnj : noJump body = true) (hn : n < 128) (hc : c < 128) (hk : k / 4 = c)
    (hbody : ∀ {β : Type} (B : BusOps β), ByteReads B → ∀ (g : Regs) (st s1 : St β), Sim g st → execList B o1 body st = .ok s1 →
      ∃ g1 m', runOp B op g st.bus n = .ok (advance g1 n, m', STATUS_NORMAL) ∧ Sim g1 s1 ∧ s1.bus = m' ∧ s1.stack = st.stack ∧
        R (get st 14) (get s1 14)) :
    ∃ code, decodeCode (Gen.emitCb b1) = some code ∧
    ∀ (β : Type) (B : BusOps β), ByteReads B → ∀ (g : Regs) (fuel : Nat) (st st' : St β), Sim g st → st.pc = 0 →
      run B code (bytesOf (Gen.emitCb b1)) fuel st = .ok st' →
      ∃ g' m', runOp B (Gen.decode 0xcb b1 b2).1 g st.bus (Gen.decode 0xcb b1 b2).2.1 = .ok (g', m', STATUS_NORMAL) ∧
        Sim { g' with cycles := g'.cycles + (Gen.decode 0xcb b1 b2).2.2 / 4 } st' ∧ st'.bus = m' ∧ st'.stack = st.stack ∧
        R (get st 14) (get st' 14) :=
  have ⟨code, hdec, h⟩ := simulatesCbMem_of_body (fun _ => True) R htab hnj hn hc hk fun B hB g st s1 hs _ => hbody B hB g st s1 hs
  ⟨code, hdec, fun β B hB g fuel st st' hs => h β B hB g fuel st st' hs trivial⟩

theorem rmwHL_ok (B : BusOps β) {g : Regs} {m m' : β} {fi : Nat → Regs → Nat × Regs} {v : Nat}
    (hrd : B.read m (getReg16 g .HL) = .ok v) (hwr : B.write m (getReg16 g .HL) (fi v g).1 = .ok m') :
    rmwHL B g m fi = .ok ((fi v g).2, m') := by
  simp only [rmwHL, bind, Except.bind, hrd, hwr, pure, Except.pure]

theorem hiA_pack (af a f : Nat) (hf : f < 256) (h : af = a * 256 + f) (g : Regs) (hA : getReg g .A = a) :
    af % 65536 / 256 = g.af % 65536 / 256 := by
  have : getReg g .A = g.af / 256 % 256 := by show getHi g.af = _; rw [getHi_eq]
  omega

theorem SameButAf.keeps {g g' : Regs} (h : SameButAf g g') : g'.bc = g.bc ∧ g'.sp = g.sp ∧ g'.ip = g.ip ∧ g'.cycles = g.cycles :=
  ⟨h.1, h.2.2.2.1, h.2.2.2.2.1, h.2.2.2.2.2⟩

/-- the flags part `FL g v` of an operation on the byte `v`: it writes F only, and looks at AF only -/
structure FlagOp (FL : Regs → Nat → Regs) : Prop where
  af : AfOnly FL
  same : ∀ g v, SameButAf g (FL g v)
  hiA : ∀ g v, (FL g v).af % 65536 / 256 = g.af % 65536 / 256

theorem flagOp_id : FlagOp (fun r _ => r) := ⟨fun _ _ _ h => h, fun g _ => sameButAf_refl g, fun _ _ => rfl⟩

theorem rotF_lt (f : Nat) (c : Bool) (x : Nat) : (((f % 256 &&& 0x0f) ||| (if c then 0x10 else 0)) ||| (if x == 0 then 0x80 else 0)) < 256 :=
  or_bit_lt _ _ 0x80 (or_bit_lt _ _ 0x10 (Nat.lt_of_le_of_lt Nat.and_le_right (by decide)) (by decide)) (by decide)

theorem flagOp_rot (f : Nat → Nat → Nat × Bool) : FlagOp (fun r v => flagsRot r (f v r.af) true) :=
  ⟨fun g1 g2 v h => by
    show (flagsRot g1 (f v g1.af) true).af = (flagsRot g2 (f v g2.af) true).af
    rw [h]
    exact af_testZero _ _ _ (af_testCarry _ _ _ (af_applyMask _ _ _ h)),
   fun g _ => sameButAf_flagsRot g _,
   fun g _ => hiA_pack _ _ _ (rotF_lt _ _ _) (rotFlags_pack g _) g rfl⟩

theorem flagOp_incdec (neg : Bool) (h : Nat → Bool) (x : Nat → Nat) :
    FlagOp (fun r v => testZero (if neg then setNeg (testHalf (applyMask r 0xe0) (h v)) else testHalf (applyMask r 0xe0) (h v)) (x v)) :=
  ⟨fun g1 g2 v e => by
    cases neg
    · exact af_testZero _ _ _ (af_testHalf _ _ _ (af_applyMask _ _ _ e))
    · exact af_testZero _ _ _ (af_orF _ _ _ (af_testHalf _ _ _ (af_applyMask _ _ _ e))),
   fun g _ => sameButAf_incFlags g _ _ neg,
   fun g _ => hiA_pack _ _ _
    (or_bit_lt _ _ 0x80 (or_bit_lt _ _ 0x40 (or_bit_lt _ _ 0x20 (Nat.lt_of_le_of_lt Nat.and_le_right (by decide)) (by decide)) (by decide)) (by decide))
    (incFlags_pack g _ _ neg) g rfl⟩

theorem flagOp_swap : FlagOp (fun r v => testZero (applyMask r 0xf0) (swapN v)) :=
  ⟨fun _ _ _ h => af_testZero _ _ _ (af_applyMask _ _ _ h), fun g _ => (sameButAf_applyMask g _).trans (sameButAf_testZero _ _),
   fun g v => hiA_pack _ _ _ (or_bit_lt _ _ 0x80 (Nat.lt_of_le_of_lt Nat.and_le_right (by decide)) (by decide))
    (swapFlags_pack g (swapN v)) g rfl⟩

/-- `rmw_wrap` for an operation given as a byte result `res v af` and a flags part `FL`, with the interpreter's `rmwHL` clause
added; `mid` is the register form of the operation on E -/
theorem rmw_sim (B : BusOps β) (hB : ByteReads B) {mid : List (Nat × Instr)} {o : Nat → Nat} {e : Nat}
    (res : Nat → Nat → Nat) (FL : Regs → Nat → Regs) (p : Nat → Prop) (hF : FlagOp FL) (hres : ∀ v a, v < 256 → res v a < 256)
    (R : W → W → Prop)
    (hbody : ∀ (g' : Regs) (st0 s1 : St β), Sim g' st0 → p g'.af → execList B (headOff e (rmwPost o)) mid st0 = .ok s1 →
      Sim (FL (setReg g' .E (res (getReg g' .E) g'.af)) (getReg g' .E)) s1 ∧ s1.bus = st0.bus ∧ s1.stack = st0.stack ∧
        R (get st0 14) (get s1 14))
    {op : Op} {n : Nat}
    (hop : ∀ (g : Regs) (m : β), runOp B op g m n =
      rmwHL B g m (fun v r => (res v r.af, FL r v)) >>= fun x => .ok (advance x.1 n, x.2, STATUS_NORMAL))
    {g : Regs} {st s' : St β} (hs : Sim g st) (hPg : p g.af)
    (hex : execList B e ((rmwPre ++ mid) ++ rmwPost o) st = .ok s') :
    ∃ g1 m', runOp B op g st.bus n = .ok (advance g1 n, m', STATUS_NORMAL) ∧ Sim g1 s' ∧ s'.bus = m' ∧ s'.stack = st.stack ∧
      R (get st 14) (get s' 14) := by
  have hE : ∀ g' : Regs, SameButAf (setReg g' .E (res (getReg g' .E) g'.af)) (FL (setReg g' .E (res (getReg g' .E) g'.af)) (getReg g' .E)) :=
    fun _ => hF.same _ _
  obtain ⟨v, hrd, hwr, hs', hk, hR⟩ := rmw_wrap B hB mid o e (fun g' => FL (setReg g' .E (res (getReg g' .E) g'.af)) (getReg g' .E))
    (fun v r => (res v r.af, FL r v)) (fun g => p g.af) (fun _ _ h hp => h ▸ hp)
    (fun g' => (congrArg getLo (hE g').2.1).trans (getReg_setReg_self g' .E _ (hres _ _ (getReg_lt g' .E))))
    (fun g' => hF.af _ g' _ rfl) (fun g1 g2 v h => ⟨congrArg (res v) h, hF.af _ _ v h⟩) (fun v g => hF.same g v) (fun v g => hF.hiA g v)
    (fun g' => (hE g').keeps) R hbody g st s' hs hPg hex
  exact ⟨_, _, (hop g st.bus).trans (bind_ok (rmwHL_ok B hrd hwr) _), hs', rfl, hk, hR⟩

theorem rmw_sim_untouched (B : BusOps β) (hB : ByteReads B) {mid : List (Nat × Instr)} {o : Nat → Nat} {e : Nat}
    (res : Nat → Nat → Nat) (FL : Regs → Nat → Regs) (hF : FlagOp FL) (hres : ∀ v a, v < 256 → res v a < 256)
    (hbody : ∀ (g' : Regs) (st0 s1 : St β), Sim g' st0 → execList B (headOff e (rmwPost o)) mid st0 = .ok s1 →
      Sim (FL (setReg g' .E (res (getReg g' .E) g'.af)) (getReg g' .E)) s1 ∧ Untouched st0 s1)
    {op : Op} {n : Nat}
    (hop : ∀ (g : Regs) (m : β), runOp B op g m n =
      rmwHL B g m (fun v r => (res v r.af, FL r v)) >>= fun x => .ok (advance x.1 n, x.2, STATUS_NORMAL))
    {g : Regs} {st s' : St β} (hs : Sim g st) (hex : execList B e ((rmwPre ++ mid) ++ rmwPost o) st = .ok s') :
    ∃ g1 m', runOp B op g st.bus n = .ok (advance g1 n, m', STATUS_NORMAL) ∧ Sim g1 s' ∧ s'.bus = m' ∧ s'.stack = st.stack ∧
      get s' 14 = get st 14 :=
  rmw_sim B hB res FL (fun _ => True) hF hres (fun a b => b = a)
    (fun g' st0 s1 hs _ hex => have ⟨q, u⟩ := hbody g' st0 s1 hs hex; ⟨q, u.bus, u.stack, u.r14⟩) hop hs trivial hex

/-- offsets of `rmwPost` in the templates of RES / SET b,(HL) -/
def rmwOff3 (k : Nat) : Nat := [39, 43, 48, 58, 68, 70, 71, 72].getD k 0

def opcodeResHl (b : Fin 8) : Nat := 0x86 + 8 * b.val
def opcodeSetHl (b : Fin 8) : Nat := 0xc6 + 8 * b.val

theorem table_reshl (b : Fin 8) (b2 : Nat) :
    decodeCode (Gen.emitCb (opcodeResHl b)) = some (((rmwPre ++ [(36, Instr.alu8i AluOp.and (R8.lo 2) ((bitMask b ^^^ 0xff) % 256))]) ++ rmwPost rmwOff3) ++ [(73, addIp 2), (77, addCy 4)]) ∧
    bytesOf (Gen.emitCb (opcodeResHl b)) = 81 ∧ Gen.decode 0xcb (opcodeResHl b) b2 = (.BitClearIndirect (bitMask b), 2, 16) := by
  rw [decode_cb]
  revert b
  decide +kernel

theorem table_sethl (b : Fin 8) (b2 : Nat) :
    decodeCode (Gen.emitCb (opcodeSetHl b)) = some (((rmwPre ++ [(36, Instr.alu8i AluOp.or (R8.lo 2) (bitMask b))]) ++ rmwPost rmwOff3) ++ [(73, addIp 2), (77, addCy 4)]) ∧
    bytesOf (Gen.emitCb (opcodeSetHl b)) = 81 ∧ Gen.decode 0xcb (opcodeSetHl b) b2 = (.BitSetIndirect (bitMask b), 2, 16) := by
  rw [decode_cb]
  revert b
  decide +kernel

/-- **RES b,(HL)** (8 bits): all states, any bus -/
theorem sim_reshl (b : Fin 8) (b2 : Nat) : SimulatesCbMem (opcodeResHl b) b2 :=
  simulatesCbMem_of_body_all (fun a b => b = a) (table_reshl b b2) rfl (by decide) (by decide) rfl fun B hB _ _ _ hs hex =>
    rmw_sim_untouched B hB (fun v _ => v &&& ((bitMask b ^^^ 0xff) % 256)) (fun r _ => r) flagOp_id
      (fun _ _ _ => Nat.lt_of_le_of_lt Nat.and_le_right (Nat.mod_lt _ (by decide)))
      (fun g' st0 s1 hs hex => step_bit_sim B .and (Or.inl rfl) .E _ (Nat.mod_lt _ (by decide)) g' st0 s1 _ hs (execList_one B hex))
      (fun _ _ => rfl) hs hex

/-- **SET b,(HL)** (8 bits): all states, any bus -/
theorem sim_sethl (b : Fin 8) (b2 : Nat) : SimulatesCbMem (opcodeSetHl b) b2 :=
  simulatesCbMem_of_body_all (fun a b => b = a) (table_sethl b b2) rfl (by decide) (by decide) rfl fun B hB _ _ _ hs hex =>
    rmw_sim_untouched B hB (fun v _ => v ||| bitMask b) (fun r _ => r) flagOp_id
      (fun _ _ hv => Nat.or_lt_two_pow (n := 8) hv (bitMask_lt b))
      (fun g' st0 s1 hs hex => step_bit_sim B .or (Or.inr rfl) .E _ (bitMask_lt b) g' st0 s1 _ hs (execList_one B hex))
      (fun _ _ => rfl) hs hex

/-- offsets of a register form placed after `rmwPre`: `aluOff' 2` moved on by its 36 bytes -/
def rmwMidOff (k : Nat) : Nat := [36, 38, 39, 40, 43, 45, 48, 54, 59, 65, 67].getD k 0
/-- offsets of `rmwPost` in the template of INC (HL) -/
def rmwOff4 (k : Nat) : Nat := [67, 71, 76, 86, 96, 98, 99, 100].getD k 0
/-- offsets of `rmwPost` in the templates of SLA / SRA / SRL (HL) and DEC (HL) -/
def rmwOff5 (k : Nat) : Nat := [69, 73, 78, 88, 98, 100, 101, 102].getD k 0

def Sh3.opHl : Sh3 → Op
  | .sla => .ShiftLeftIndirect | .sra => .ShiftRightIndirect | .srl => .ShiftRightLogicalIndirect
def opcodeShHl (k : Sh3) : Nat := k.base + 6

theorem table_shhl (k : Sh3) (b2 : Nat) :
    decodeCode (Gen.emitCb (opcodeShHl k)) = some (((rmwPre ++ (((rmwMidOff 0, Instr.sh8 k.host (hostR8 .E) 1) :: pipeAt rmwMidOff 0x6f 0x90) ++
      [(rmwMidOff 10, Instr.alu8i AluOp.and (R8.lo 0) 0x9f)])) ++ rmwPost rmwOff5) ++ [(103, addIp 2), (107, addCy 4)]) ∧
    bytesOf (Gen.emitCb (opcodeShHl k)) = 111 ∧ Gen.decode 0xcb (opcodeShHl k) b2 = (k.opHl, 2, 16) := by
  cases k <;> exact ⟨by decide +kernel, by decide +kernel, rfl⟩

/-- **SLA (HL), SRA (HL), SRL (HL)**: all states, any bus -/
theorem sim_shhl (k : Sh3) (b2 : Nat) : SimulatesCbMem (opcodeShHl k) b2 :=
  simulatesCbMem_of_body_all (fun a b => b = a) (table_shhl k b2) rfl (by decide) (by decide) rfl fun B hB _ _ _ hs hex =>
    rmw_sim_untouched B hB (fun v _ => (k.res v).1) (fun r v => flagsRot r (k.res v) true)
      (flagOp_rot fun v _ => k.res v) (fun v _ hv => (shOp_res k v hv (mkFl false)).2.2.2) (sh_body B k .E rmwMidOff _)
      (by cases k <;> exact fun _ _ => rfl) hs hex

theorem table_incdechl (b1 b2 : Nat) :
    (decodeCode (Gen.emitOp 0x34) = some (((rmwPre ++ ((rmwMidOff 0, Instr.incdec8 false (hostR8 .E)) :: pipeAt rmwMidOff 31 224)) ++ rmwPost rmwOff4) ++ [(101, addIp 1), (105, addCy 3)]) ∧
      bytesOf (Gen.emitOp 0x34) = 109 ∧ Gen.decode 0x34 b1 b2 = (.IncrementHLIndirect, 1, 12)) ∧
    (decodeCode (Gen.emitOp 0x35) = some (((rmwPre ++ (((rmwMidOff 0, Instr.incdec8 true (hostR8 .E)) :: pipeAt rmwMidOff 31 224) ++
        [(rmwMidOff 10, Instr.alu8i AluOp.or (R8.lo 0) 64)])) ++ rmwPost rmwOff5) ++ [(103, addIp 1), (107, addCy 3)]) ∧
      bytesOf (Gen.emitOp 0x35) = 111 ∧ Gen.decode 0x35 b1 b2 = (.DecrementHLIndirect, 1, 12)) :=
  ⟨⟨by decide +kernel, by decide +kernel, rfl⟩, ⟨by decide +kernel, by decide +kernel, rfl⟩⟩

/-- **INC (HL)**: all states, any bus -/
theorem sim_inchl (b1 b2 : Nat) : SimulatesMem 0x34 b1 b2 :=
  SimulatesMem.intro (table_incdechl b1 b2).1 rfl (by decide) (by decide) rfl fun B hB _ _ _ hs _ _ hex =>
    rmw_sim_untouched B hB (fun v _ => (carryAdd v 1).1)
      (fun r v => testZero (testHalf (applyMask r 0xe0) (carryAdd v 1).2.2) (carryAdd v 1).1)
      (flagOp_incdec false _ _) (fun _ _ _ => Nat.mod_lt _ (by decide)) (inc_body B .E rmwMidOff _) (fun _ _ => rfl) hs hex

/-- **DEC (HL)**: all states, any bus -/
theorem sim_dechl (b1 b2 : Nat) : SimulatesMem 0x35 b1 b2 :=
  SimulatesMem.intro (table_incdechl b1 b2).2 rfl (by decide) (by decide) rfl fun B hB _ _ _ hs _ _ hex =>
    rmw_sim_untouched B hB (fun v _ => (carrySub v 1).1)
      (fun r v => testZero (setNeg (testHalf (applyMask r 0xe0) (carrySub v 1).2.2)) (carrySub v 1).1)
      (flagOp_incdec true _ _) (fun _ _ _ => Nat.mod_lt _ (by decide)) (dec_body B .E rmwMidOff _) (fun _ _ => rfl) hs hex

/-- offsets of the conversion and the fix-up in the template of SWAP (HL): `aluOff' 5` moved on by 36 (entry 0 is not used:
`swapBodyAt` takes the first two offsets apart) -/
def swapHlOff (k : Nat) : Nat := [0, 41, 42, 43, 46, 48, 51, 57, 62, 68, 70].getD k 0
/-- offsets of `rmwPost` in the template of SWAP (HL) -/
def rmwOff6 (k : Nat) : Nat := [72, 76, 81, 91, 101, 103, 104, 105].getD k 0

theorem table_swaphl (b2 : Nat) :
    decodeCode (Gen.emitCb 0x36) = some (((rmwPre ++ swapBodyAt .E 36 39 swapHlOff) ++ rmwPost rmwOff6) ++ [(106, addIp 2), (110, addCy 4)]) ∧
    bytesOf (Gen.emitCb 0x36) = 114 ∧ Gen.decode 0xcb 0x36 b2 = (.SwapIndirect, 2, 16) :=
  ⟨by decide +kernel, by decide +kernel, rfl⟩

/-- **SWAP (HL)**: all states, any bus -/
theorem sim_swaphl (b2 : Nat) : SimulatesCbMem 0x36 b2 :=
  simulatesCbMem_of_body_all (fun a b => b = a) (table_swaphl b2) rfl (by decide) (by decide) rfl fun B hB _ _ _ hs hex =>
    rmw_sim_untouched B hB (fun v _ => swapN v) (fun r v => testZero (applyMask r 0xf0) (swapN v)) flagOp_swap
      (fun v _ hv => (rol4_swap v hv (mkFl false)).2) (swap_body_at B .E 36 39 swapHlOff _) (fun _ _ => rfl) hs hex

/-- `SimulatesCbMem` for templates that use r14b as scratch -/
def SimulatesCbMemS (b1 b2 : Nat) : Prop :=
  ∃ code, decodeCode (Gen.emitCb b1) = some code ∧
  ∀ (β : Type) (B : BusOps β), ByteReads B → ∀ (g : Regs) (fuel : Nat) (st st' : St β), Sim g st → st.pc = 0 →
    run B code (bytesOf (Gen.emitCb b1)) fuel st = .ok st' →
    ∃ g' m', runOp B (Gen.decode 0xcb b1 b2).1 g st.bus (Gen.decode 0xcb b1 b2).2.1 = .ok (g', m', STATUS_NORMAL) ∧
      Sim { g' with cycles := g'.cycles + (Gen.decode 0xcb b1 b2).2.2 / 4 } st' ∧ st'.bus = m' ∧ st'.stack = st.stack ∧
      (get8 st' (.lo 14) = 0 ∨ get8 st' (.lo 14) = 0x80)

/-- offsets of `zTail` in the templates of RLC / RRC (HL) -/
def rcHlZ (k : Nat) : Nat := [69, 71, 75, 78].getD k 0
/-- offsets of `rmwPost` in the templates of RLC / RRC (HL) -/
def rmwOff7 (k : Nat) : Nat := [81, 85, 90, 100, 110, 112, 113, 114].getD k 0

def Rc2.opHl : Rc2 → Op
  | .rlc => .RotateLeftCarryIndirect | .rrc => .RotateRightCarryIndirect
def opcodeRcHl (k : Rc2) : Nat := k.base + 6

theorem table_rchl (k : Rc2) (b2 : Nat) :
    decodeCode (Gen.emitCb (opcodeRcHl k)) = some (((rmwPre ++ (rotcBody k .E rmwMidOff ++ zTail .E 69 71 75 78)) ++ rmwPost rmwOff7) ++ [(115, addIp 2), (119, addCy 4)]) ∧
    bytesOf (Gen.emitCb (opcodeRcHl k)) = 123 ∧ Gen.decode 0xcb (opcodeRcHl k) b2 = (k.opHl, 2, 16) := by
  cases k <;> exact ⟨by decide +kernel, by decide +kernel, rfl⟩

/-- **RLC (HL), RRC (HL)**: all states, any bus; the status byte is left at 0 or 0x80 -/
theorem sim_rchl (k : Rc2) (b2 : Nat) : SimulatesCbMemS (opcodeRcHl k) b2 :=
  simulatesCbMem_of_body_all (fun _ b => b.toNat % 256 = 0 ∨ b.toNat % 256 = 0x80) (table_rchl k b2) rfl (by decide) (by decide) rfl fun B hB _ _ _ hs hex =>
    rmw_sim B hB (fun v _ => (k.res v).1) (fun r v => flagsRot r (k.res v) true) (fun _ => True)
      (flagOp_rot fun v _ => k.res v) (fun v _ hv => (rot1_res k v hv (mkFl false)).2.2) (fun _ b => b.toNat % 256 = 0 ∨ b.toNat % 256 = 0x80)
      (fun g' st0 s1 hs _ hex => rc_body B k .E rmwMidOff 69 71 75 78 _ g' st0 s1 hs hex)
      (by cases k <;> exact fun _ _ => rfl) hs trivial hex

end GbVerif.X86
