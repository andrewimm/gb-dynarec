import GbVerif.Proofs.NatBits
/-! Bit/arith lemmas used by the timer proofs (core only). -/
namespace GbVerif.TimerBits

/-- masking with a constant below `2^16` only sees the value mod `2^16` -/
theorem and_mod16 (c m : Nat) (hm : m < 65536) : (c % 65536) &&& m = c &&& m :=
  (NatBits.and_const_mod c m 16 hm).symm

export GbVerif.NatBits (and_ffff and_3)

theorem and_4_ne_zero (c : Nat) : (c &&& 4 != 0) = c.testBit 2 := NatBits.mask_ne c 2

/-- consecutive quotients differ by at most one -/
theorem div_succ_bounds (e P : Nat) (hP : 0 < P) : e / P ≤ (e + 1) / P ∧ (e + 1) / P ≤ e / P + 1 := by
  refine ⟨Nat.div_le_div_right (Nat.le_succ e), ?_⟩
  rw [← Nat.add_div_right e hP]
  exact Nat.div_le_div_right (by omega)

/-- bit `k` of a counter falls between `c` and `c+1` exactly when the quotient by the period `2^(k+1)` goes up:
the quotient by `2^k` goes up by at most one, and it falls from odd to even -/
theorem fall_iff_div (c k : Nat) :
    (c.testBit k && !(c + 1).testBit k) = decide ((c + 1) / 2 ^ (k + 1) = c / 2 ^ (k + 1) + 1) := by
  have hb := div_succ_bounds c (2 ^ k) (Nat.two_pow_pos k)
  rw [Nat.testBit_eq_decide_div_mod_eq, Nat.testBit_eq_decide_div_mod_eq, Nat.pow_succ, ← Nat.div_div_eq_div_mul, ← Nat.div_div_eq_div_mul, Bool.eq_iff_iff]
  simp only [Bool.and_eq_true, Bool.not_eq_true', decide_eq_true_eq, decide_eq_false_iff_not]
  omega

end GbVerif.TimerBits
