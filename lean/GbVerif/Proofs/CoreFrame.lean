import GbVerif.Spec.Lcd
/-!
Arithmetic of a strictly increasing sequence of sampling times `T i`, for C09.  `Core::run_frame` counts completed
frames (`get_frames_completed`) and steps until the count changes; Props/C09.lean models it so and takes `first_reach`
and `T_ge` from here.  `mode1_iff`, `hit_window` and `poll_frame` are about another loop, one that polls the LCD *mode*
of the closed-form schedule `LcdSpec.sched` (C14): sampled with gaps of at most 4560 clocks (the length of the VBlank
window) it sees "mode ≠ 1 … then mode = 1 … then mode ≠ 1" within a bounded time.  `run_frame` does not poll, because a
whole VBlank can pass inside one translated block.
-/
namespace GbVerif.CoreProofs
open GbVerif.LcdSpec

/-- the schedule is in VBlank (mode 1) exactly during the first 4560 clocks of each 70224-clock frame -/
theorem mode1_iff (t : Nat) : (sched t).mode = 1 ↔ t % 70224 < 4560 := by
  unfold sched
  simp only []
  split
  · simp [*]
  · rename_i h
    constructor
    · intro hm
      split at hm
      · simp at hm
      · split at hm <;> simp at hm
    · intro h'; exact absurd h' h

section poll
variable (T : Nat → Nat) (g : Nat) (hinc : ∀ i, T i < T (i + 1)) (hgap : ∀ i, T (i + 1) ≤ T i + g)
include hinc

theorem T_mono : ∀ n j, j ≤ n → T j ≤ T n := by
  intro n
  induction n with
  | zero => intro j hj; have : j = 0 := by omega
            subst this; exact Nat.le_refl _
  | succ n ih =>
    intro j hj
    by_cases h : j = n + 1
    · subst h; exact Nat.le_refl _
    · have := ih j (by omega); have := hinc n; omega

theorem T_ge : ∀ n, T 0 + n ≤ T n := by
  intro n
  induction n with
  | zero => exact Nat.le_refl _
  | succ n ih => have := hinc n; omega

theorem first_reach (L : Nat) : ∀ n, L ≤ T n → ∃ i, i ≤ n ∧ L ≤ T i ∧ ∀ j, j < i → T j < L := by
  intro n
  induction n with
  | zero => intro h; exact ⟨0, Nat.le_refl _, h, fun j hj => absurd hj (by omega)⟩
  | succ n ih =>
    intro h
    by_cases hn : L ≤ T n
    · obtain ⟨i, hi, h1, h2⟩ := ih hn; exact ⟨i, by omega, h1, h2⟩
    · refine ⟨n + 1, Nat.le_refl _, h, fun j hj => ?_⟩
      have := T_mono T hinc n j (by omega); omega

include hgap

/-- a sampling sequence with gaps ≤ g cannot step over a window of length g: the first sample at or after `L` lies in
`[L, L + g)` -/
theorem hit_window (L : Nat) (hL : T 0 ≤ L) : ∃ i, L ≤ T i ∧ T i < L + g ∧ ∀ j, j < i → T j < L := by
  have hreach : L ≤ T L := by have := T_ge T hinc L; omega
  obtain ⟨i, _, h1, h2⟩ := first_reach T hinc L L hreach
  refine ⟨i, h1, ?_, h2⟩
  cases i with
  | zero => have := hinc 0; have := hgap 0; omega
  | succ k => have := h2 k (by omega); have := hgap k; omega

/-- a loop that waits for mode = 1 and then for mode ≠ 1 terminates: with gaps of at most `g ≤ 4560` clocks between
samples there are indices `n1 ≤ n2` such that the mode is ≠ 1 before `n1`, = 1 from `n1` up to `n2` (exclusive), ≠ 1 at `n2` — and `n2` is sampled
less than one frame + one VBlank + one gap after the first sample (so within two frame periods plus one step) -/
theorem poll_frame (hg : g ≤ 4560) :
    ∃ n1 n2, n1 ≤ n2 ∧ (∀ j, j < n1 → (sched (T j)).mode ≠ 1) ∧ (∀ j, n1 ≤ j → j < n2 → (sched (T j)).mode = 1) ∧
      (sched (T n2)).mode ≠ 1 ∧ n1 < n2 ∧ T n2 < T 0 + 70224 + 4560 + g := by
  -- phase 1: first sample in a VBlank window
  have p1 : ∃ n1, (∀ j, j < n1 → ¬ T j % 70224 < 4560) ∧ T n1 % 70224 < 4560 ∧ T n1 - T n1 % 70224 ≤ T 0 + 70224 := by
    by_cases h0 : T 0 % 70224 < 4560
    · exact ⟨0, fun j hj => absurd hj (by omega), h0, by omega⟩
    · obtain ⟨i, h1, h2, h3⟩ := hit_window T g hinc hgap ((T 0 / 70224 + 1) * 70224) (by omega)
      refine ⟨i, fun j hj => ?_, by omega, by omega⟩
      have := h3 j hj
      have := T_mono T hinc j 0 (by omega)
      omega
  obtain ⟨n1, q1, q2, q3⟩ := p1
  -- phase 2: first sample after the end of that window
  obtain ⟨i, h1, h2, h3⟩ := hit_window (fun k => T (n1 + k)) g (fun k => hinc (n1 + k)) (fun k => hgap (n1 + k))
    (T n1 - T n1 % 70224 + 4560) (by show T n1 ≤ _; omega)
  have hi0 : i ≠ 0 := by
    intro e; subst e
    simp only [Nat.add_zero] at h1
    omega
  refine ⟨n1, n1 + i, by omega, ?_, ?_, ?_, by omega, by omega⟩
  · intro j hj; rw [Ne, mode1_iff]; exact q1 j hj
  · intro j hj1 hj2
    rw [mode1_iff]
    have := h3 (j - n1) (by omega)
    rw [show n1 + (j - n1) = j by omega] at this
    have := T_mono T hinc j n1 hj1
    omega
  · rw [Ne, mode1_iff]
    omega

end poll

end GbVerif.CoreProofs
