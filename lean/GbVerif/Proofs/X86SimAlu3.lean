import GbVerif.Proofs.X86SimAlu2
/-
C01, the data side: the 8-bit ALU instructions on A with an immediate operand (ADD / SUB / AND / XOR / OR / CP n).
-/
namespace GbVerif.X86
open GbVerif.JitCycles GbVerif.Interp
variable {β : Type}

theorem table_imm (b1 b2 : Nat) :
    (decodeCode (Gen.emitOp 0xc6) = some (((0, Instr.alu8i AluOp.add (R8.hi 0) 256) :: pipeAt (aluOff 3) 15 240) ++ [(32, addIp 2), (36, addCy 2)]) ∧
      bytesOf (Gen.emitOp 0xc6) = 40 ∧ Gen.decode 0xc6 b1 b2 = (.AddAbsolute8 b1, 2, 8)) ∧
    (decodeCode (Gen.emitOp 0xd6) = some ((((0, Instr.alu8i AluOp.sub (R8.hi 0) 256) :: pipeAt (aluOff' 3) 15 240) ++ [(32, Instr.alu8i AluOp.or (R8.lo 0) 64)]) ++ [(34, addIp 2), (38, addCy 2)]) ∧
      bytesOf (Gen.emitOp 0xd6) = 42 ∧ Gen.decode 0xd6 b1 b2 = (.SubAbsolute8 b1, 2, 8)) ∧
    (decodeCode (Gen.emitOp 0xfe) = some ((((0, Instr.alu8i AluOp.cmp (R8.hi 0) 256) :: pipeAt (aluOff' 3) 15 240) ++ [(32, Instr.alu8i AluOp.or (R8.lo 0) 64)]) ++ [(34, addIp 2), (38, addCy 2)]) ∧
      bytesOf (Gen.emitOp 0xfe) = 42 ∧ Gen.decode 0xfe b1 b2 = (.CompareAbsolute8 b1, 2, 8)) ∧
    (decodeCode (Gen.emitOp 0xe6) = some ((((0, Instr.alu8i AluOp.and (R8.hi 0) 256) :: pipeAt (aluOff' 3) 63 192) ++ [(32, Instr.alu8i AluOp.and (R8.lo 0) 239), (34, Instr.alu8i AluOp.or (R8.lo 0) 32)]) ++ [(36, addIp 2), (40, addCy 2)]) ∧
      bytesOf (Gen.emitOp 0xe6) = 44 ∧ Gen.decode 0xe6 b1 b2 = (.AndAbsolute8 b1, 2, 8)) ∧
    (decodeCode (Gen.emitOp 0xee) = some ((((0, Instr.alu8i AluOp.xor (R8.hi 0) 256) :: pipeAt (aluOff' 3) 127 128) ++ [(32, Instr.alu8i AluOp.and (R8.lo 0) 143)]) ++ [(34, addIp 2), (38, addCy 2)]) ∧
      bytesOf (Gen.emitOp 0xee) = 42 ∧ Gen.decode 0xee b1 b2 = (.XorAbsolute8 b1, 2, 8)) ∧
    (decodeCode (Gen.emitOp 0xf6) = some ((((0, Instr.alu8i AluOp.or (R8.hi 0) 256) :: pipeAt (aluOff' 3) 127 128) ++ [(32, Instr.alu8i AluOp.and (R8.lo 0) 143)]) ++ [(34, addIp 2), (38, addCy 2)]) ∧
      bytesOf (Gen.emitOp 0xf6) = 42 ∧ Gen.decode 0xf6 b1 b2 = (.OrAbsolute8 b1, 2, 8)) := by
  refine ⟨⟨by decide +kernel, by decide +kernel, rfl⟩, ⟨by decide +kernel, by decide +kernel, rfl⟩, ⟨by decide +kernel, by decide +kernel, rfl⟩,
    ⟨by decide +kernel, by decide +kernel, rfl⟩, ⟨by decide +kernel, by decide +kernel, rfl⟩, ⟨by decide +kernel, by decide +kernel, rfl⟩⟩

/-- **ADD A,n** (every operand byte): all states.  The six immediate forms are stated alike; this one does not use the bound
on the operand -/
theorem sim_c6 (b1 b2 : Nat) (_ : b1 < 256) : Simulates 0xc6 b1 b2 :=
  Simulates.intro (table_imm b1 b2).1 rfl (by decide) (by decide) rfl fun B g _ _ hs hp _ hex =>
    ⟨_, fun _ => rfl, add_body B _ _ (isAOp_imm B .add) b1 (aluOff 3) 32 g _ _ hs hp hex⟩

/-- **SUB n** (every operand byte): all states -/
theorem sim_d6 (b1 b2 : Nat) (hb : b1 < 256) : Simulates 0xd6 b1 b2 :=
  Simulates.intro (table_imm b1 b2).2.1 rfl (by decide) (by decide) rfl fun B g _ _ hs hp _ hex =>
    ⟨_, fun _ => rfl, sub_body B .sub (Or.inl rfl) _ _ (isAOp_imm B .sub) b1 (aluOff' 3) 34 g _ _ hs hp hb hex⟩

/-- **CP n** (every operand byte): all states -/
theorem sim_fe (b1 b2 : Nat) (hb : b1 < 256) : Simulates 0xfe b1 b2 :=
  Simulates.intro (table_imm b1 b2).2.2.1 rfl (by decide) (by decide) rfl fun B g _ _ hs hp _ hex =>
    ⟨_, fun _ => rfl, sub_body B .cmp (Or.inr rfl) _ _ (isAOp_imm B .cmp) b1 (aluOff' 3) 34 g _ _ hs hp hb hex⟩

/-- **AND n** (every operand byte): all states.  The bound on the operand is not used, as for ADD A,n -/
theorem sim_e6 (b1 b2 : Nat) (_ : b1 < 256) : Simulates 0xe6 b1 b2 :=
  Simulates.intro (table_imm b1 b2).2.2.2.1 rfl (by decide) (by decide) rfl fun B g _ _ hs hp _ hex =>
    ⟨_, fun _ => rfl, and_body B _ _ (isAOp_imm B .and) 63 192 239 (by decide) (by decide) (by decide) fAnd_eq' b1 (aluOff' 3) 36 g _ _ hs hp hex⟩

/-- **XOR n** (every operand byte): all states -/
theorem sim_ee (b1 b2 : Nat) (hb : b1 < 256) : Simulates 0xee b1 b2 :=
  Simulates.intro (table_imm b1 b2).2.2.2.2.1 rfl (by decide) (by decide) rfl fun B g _ _ hs hp _ hex =>
    ⟨_, fun _ => rfl, xo_body B .xor (Or.inl rfl) _ _ (isAOp_imm B .xor) b1 hb (aluOff' 3) 34 g _ _ hs hp hex⟩

/-- **OR n** (every operand byte): all states -/
theorem sim_f6 (b1 b2 : Nat) (hb : b1 < 256) : Simulates 0xf6 b1 b2 :=
  Simulates.intro (table_imm b1 b2).2.2.2.2.2 rfl (by decide) (by decide) rfl fun B g _ _ hs hp _ hex =>
    ⟨_, fun _ => rfl, xo_body B .or (Or.inr rfl) _ _ (isAOp_imm B .or) b1 hb (aluOff' 3) 34 g _ _ hs hp hex⟩

end GbVerif.X86
