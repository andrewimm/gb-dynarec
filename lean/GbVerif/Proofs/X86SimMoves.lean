import GbVerif.Proofs.X86Sim
import GbVerif.Gen.EmitTable
import GbVerif.Gen.DecoderOps
/-
C01, the data side, proved for the register-transfer instructions (LD d,s, LD r,n, NOP, INC / DEC rr, LD rr,nn, LD SP,HL):
for each of them the emitted template, run on the x86 model from ANY host state related by `Sim` to a guest register file,
ends in a host state related to the register file the interpreter model produces — registers, PC, cycles — and leaves the
bus, the host stack and the status alone.  `Simulates` is that statement; `simulates_of_body` is what the introduction
lemmas of `Simulates` and of its variants in the later files share.
-/
namespace GbVerif.X86
open GbVerif.JitCycles GbVerif.Interp
variable {β : Type}

/-- the template of the encoding `b0` (operand bytes `b1 b2`) simulates the interpreter on register-only instructions -/
def Simulates (b0 b1 b2 : Nat) : Prop :=
  ∃ code, decodeCode (Gen.emitOp b0) = some code ∧
  ∀ (β : Type) (B : BusOps β) (g : Regs) (m : β) (fuel : Nat) (st st' : St β), Sim g st → st.pc = 0 → st.op1 = b1 → st.op2 = b2 →
    run B code (bytesOf (Gen.emitOp b0)) fuel st = .ok st' →
    ∃ g', runOp B (Gen.decode b0 b1 b2).1 g m (Gen.decode b0 b1 b2).2.1 = .ok (g', m, STATUS_NORMAL) ∧
      Sim { g' with cycles := g'.cycles + (Gen.decode b0 b1 b2).2.2 / 4 } st' ∧ Untouched st st'

/-- position of a register in the SM83 encoding (6 is `(HL)`) -/
def r8code : Reg8 → Nat | .B => 0 | .C => 1 | .D => 2 | .E => 3 | .H => 4 | .L => 5 | .A => 7

theorem forall_reg8 {P : Reg8 → Prop} [DecidablePred P] (h : [Reg8.A, .B, .C, .D, .E, .H, .L].all (fun r => decide (P r)) = true)
    (r : Reg8) : P r := by
  simp only [List.all_cons, List.all_nil, Bool.and_true, Bool.and_eq_true, decide_eq_true_eq] at h
  obtain ⟨hA, hB, hC, hD, hE, hH, hL⟩ := h
  cases r <;> assumption

theorem decode_cb (b1 b2 : Nat) : Gen.decode 0xcb b1 b2 = Gen.decode 0xcb b1 0 := rfl

theorem getReg_lt (g : Regs) (r : Reg8) : getReg g r < 256 := by
  cases r <;> exact Nat.mod_lt _ (by decide)

theorem hostR8_ne14 (r : Reg8) : r8reg (hostR8 r) ≠ 14 := by cases r <;> decide

/-- what the introduction lemmas of the `Simulates…` predicates share: `P` restricts the register files, `Q` the initial host
states (operand bytes in place); `R g' st s` is what the body guarantees beyond `Sim`, and steps that leave bus, stack and
r14 alone keep it -/
theorem simulates_of_body {t : List Nat} {d : Op × Nat × Nat} {body : List (Nat × Instr)} {o1 o2 e n c k : Nat} {op : Op}
    (P : Regs → Prop) (Q : {β : Type} → St β → Prop) (R : {β : Type} → Regs → St β → St β → Prop)
    (hR : ∀ {β : Type} {g' : Regs} {st s1 st' : St β}, R g' st s1 → Untouched s1 st' → R g' st st')
    (htab : decodeCode t = some (body ++ [(o1, addIp n), (o2, addCy c)]) ∧ bytesOf t = e ∧ d = (op, n, k))
    (hnj : noJump body = true) (hn : n < 128) (hc : c < 128) (hk : k / 4 = c)
    (hbody : ∀ {β : Type} (B : BusOps β) (g : Regs) (st s1 : St β), Sim g st → P g → Q st → execList B o1 body st = .ok s1 →
      ∃ g1, (∀ m, runOp B op g m n = .ok (advance g1 n, m, STATUS_NORMAL)) ∧ Sim g1 s1 ∧ R (advance g1 n) st s1) :
    ∃ code, decodeCode t = some code ∧
    ∀ (β : Type) (B : BusOps β) (g : Regs) (m : β) (fuel : Nat) (st st' : St β), Sim g st → P g → Q st → st.pc = 0 →
      run B code (bytesOf t) fuel st = .ok st' →
      ∃ g', runOp B d.1 g m d.2.1 = .ok (g', m, STATUS_NORMAL) ∧ Sim { g' with cycles := g'.cycles + d.2.2 / 4 } st' ∧
        R g' st st' := by
  obtain ⟨code, hdec, hrun⟩ := template_run htab.1 hnj hn hc
  refine ⟨code, hdec, fun β B g m fuel st st' hsim hP hQ hpc hr => ?_⟩
  obtain ⟨s1, hex, hu, htail⟩ := hrun β B fuel st st' hpc hr
  obtain ⟨g1, hi, hs1, hR1⟩ := hbody B g st s1 hsim hP hQ hex
  rw [htab.2.2]
  exact ⟨_, hi m, hk ▸ htail g1 hs1, hR hR1 hu⟩

/-- `Simulates` from the table row of the encoding and a lemma about the body alone -/
theorem Simulates.intro {b0 b1 b2 : Nat} {body : List (Nat × Instr)} {o1 o2 e n c k : Nat} {op : Op}
    (htab : decodeCode (Gen.emitOp b0) = some (body ++ [(o1, addIp n), (o2, addCy c)]) ∧ bytesOf (Gen.emitOp b0) = e ∧
      Gen.decode b0 b1 b2 = (op, n, k))
    (hnj : noJump body = true) (hn : n < 128) (hc : c < 128) (hk : k / 4 = c)
    (hbody : ∀ {β : Type} (B : BusOps β) (g : Regs) (st s1 : St β), Sim g st → st.op1 = b1 → st.op2 = b2 →
      execList B o1 body st = .ok s1 →
      ∃ g1, (∀ m, runOp B op g m n = .ok (advance g1 n, m, STATUS_NORMAL)) ∧ Sim g1 s1 ∧ Untouched st s1) :
    Simulates b0 b1 b2 :=
  have ⟨code, hdec, h⟩ := simulates_of_body (fun _ => True) (fun st => st.op1 = b1 ∧ st.op2 = b2) (fun _ st s => Untouched st s)
    (fun h u => h.trans u) htab hnj hn hc hk fun B g st s1 hs _ hq => hbody B g st s1 hs hq.1 hq.2
  ⟨code, hdec, fun β B g m fuel st st' hs hpc h1 h2 => h β B g m fuel st st' hs trivial ⟨h1, h2⟩ hpc⟩

def opcodeLd8 (d s : Reg8) : Nat := 0x40 + 8 * r8code d + r8code s

theorem table_ld8 (d s : Reg8) (b1 b2 : Nat) :
    decodeCode (Gen.emitOp (opcodeLd8 d s)) = some ([(0, .mov8 (hostR8 d) (hostR8 s))] ++ [(2, addIp 1), (6, addCy 1)]) ∧
    bytesOf (Gen.emitOp (opcodeLd8 d s)) = 10 ∧ Gen.decode (opcodeLd8 d s) b1 b2 = (.Load8 d s, 1, 4) := by
  refine and_assoc.mp ⟨?_, by cases d <;> cases s <;> rfl⟩
  revert s
  cases d <;> exact forall_reg8 (by decide +kernel)

theorem step_mov8_sim (B : BusOps β) (d s : Reg8) (g : Regs) (st s1 : St β) (len : Nat) (hs : Sim g st)
    (h : step B st (.mov8 (hostR8 d) (hostR8 s)) len = .ok s1) : Sim (setReg g d (getReg g s)) s1 ∧ Untouched st s1 := by
  refine ⟨?_, untouched_step B h rfl (fun e => hostR8_ne14 d (Option.some.inj e))⟩
  rw [← Except.ok.inj h, get8_sim (sim_pc hs _) s]
  exact set8_sim (sim_pc hs _) d _ (getReg_lt g s)

/-- **LD d,s** (all 49 register pairs) -/
theorem sim_ld8 (d s : Reg8) (b1 b2 : Nat) : Simulates (opcodeLd8 d s) b1 b2 :=
  Simulates.intro (table_ld8 d s b1 b2) rfl (by decide) (by decide) rfl
    fun B g _ _ hs _ _ hex => ⟨_, fun _ => rfl, step_mov8_sim B d s g _ _ _ hs (execList_one B hex)⟩

def opcodeLdI (r : Reg8) : Nat := 0x06 + 8 * r8code r

theorem table_ldi (r : Reg8) (b1 b2 : Nat) :
    decodeCode (Gen.emitOp (opcodeLdI r)) = some ([(0, .mov8i (hostR8 r) 256)] ++ [(2, addIp 2), (6, addCy 2)]) ∧
    bytesOf (Gen.emitOp (opcodeLdI r)) = 10 ∧ Gen.decode (opcodeLdI r) b1 b2 = (.Load8Immediate r b1, 2, 8) := by
  refine and_assoc.mp ⟨?_, by cases r <;> rfl⟩
  revert r
  exact forall_reg8 (by decide +kernel)

theorem step_mov8i_sim (B : BusOps β) (r : Reg8) (b1 : Nat) (hb : b1 < 256) (g : Regs) (st s1 : St β) (len : Nat) (hs : Sim g st)
    (hop : st.op1 = b1) (h : step B st (.mov8i (hostR8 r) 256) len = .ok s1) : Sim (setReg g r b1) s1 ∧ Untouched st s1 := by
  refine ⟨?_, untouched_step B h rfl (fun e => hostR8_ne14 r (Option.some.inj e))⟩
  rw [← Except.ok.inj h, ← hop]
  exact set8_sim (sim_pc hs _) r _ (hop ▸ hb)

/-- **LD r,n** (7 registers, every operand byte) -/
theorem sim_ldi (r : Reg8) (b1 b2 : Nat) (hb : b1 < 256) : Simulates (opcodeLdI r) b1 b2 :=
  Simulates.intro (table_ldi r b1 b2) rfl (by decide) (by decide) rfl
    fun B g _ _ hs h1 _ hex => ⟨_, fun _ => rfl, step_mov8i_sim B r b1 hb g _ _ _ hs h1 (execList_one B hex)⟩

/-- **NOP** -/
theorem sim_nop (b1 b2 : Nat) : Simulates 0x00 b1 b2 :=
  Simulates.intro (body := []) (o1 := 0) (o2 := 4) (e := 8) ⟨by decide +kernel, by decide +kernel, rfl⟩ rfl (by decide) (by decide) rfl
    fun B g _ _ hs _ _ hex => ⟨g, fun _ => rfl, execList_nil B _ _ _ hex ▸ hs, execList_nil B _ _ _ hex ▸ Untouched.refl _⟩

/-- the register pairs that live in one host register's low 16 bits and are written as a whole -/
inductive Pair where | BC | DE | HL | SP
deriving DecidableEq

def Pair.reg : Pair → Reg16 | .BC => .BC | .DE => .DE | .HL => .HL | .SP => .SP
def Pair.host : Pair → Nat | .BC => 3 | .DE => 2 | .HL => 1 | .SP => 12
def Pair.code : Pair → Nat | .BC => 0 | .DE => 1 | .HL => 2 | .SP => 3

theorem toNat_setSz_w (s : St β) (j v : Nat) (hj : j < s.r.size) :
    (get (setSz s .w j v) j).toNat = ((get s j).toNat - (get s j).toNat % 65536 + v % 65536) % 2 ^ 64 := by
  simp only [setSz]
  rw [get_set_eq _ _ _ hj, BitVec.toNat_ofNat]

theorem sim_set16 {g : Regs} {s s1 : St β} (h : Sim g s) (p : Pair) (v : Nat)
    (hf : ∀ j, p.host ≠ j → get s1 j = get s j) (hv : (get s1 p.host).toNat % 65536 = v % 65536) (hsz : s1.r.size = 16) :
    Sim (setReg16 g p.reg v) s1 := by
  cases p <;> exact sim_setAt h _ v hf hv hsz

theorem pair_host_lt (p : Pair) : p.host < 16 := by cases p <;> decide

theorem getReg16_sim {g : Regs} {s : St β} (h : Sim g s) (p : Pair) : (get s p.host).toNat % 65536 = getReg16 g p.reg := by
  cases p
  · exact h.bc
  · exact h.de
  · exact h.hl
  · exact h.sp

theorem step16_sim (B : BusOps β) (p : Pair) {ins : Instr} (v : Nat) {g : Regs} {st s1 : St β} {len : Nat} (hs : Sim g st)
    (h : step B st ins len = .ok s1) (hd : destReg ins = some p.host) (hp : plain ins = true)
    (hv : (get s1 p.host).toNat % 65536 = v % 65536) : Sim (setReg16 g p.reg v) s1 ∧ Untouched st s1 := by
  cases p <;> exact step_dest_sim B _ v hs h hd hp (by decide) hv

def opcodeInc16 (p : Pair) : Nat := 0x03 + 16 * p.code
def opcodeDec16 (p : Pair) : Nat := 0x0b + 16 * p.code
def incLen (p : Pair) : Nat := match p with | .SP => 4 | _ => 3

theorem table_incdec16 (p : Pair) (dec : Bool) (b1 b2 : Nat) :
    decodeCode (Gen.emitOp (if dec then opcodeDec16 p else opcodeInc16 p)) =
      some ([(0, .incdec16 dec p.host)] ++ [(incLen p, addIp 1), (incLen p + 4, addCy 2)]) ∧
    bytesOf (Gen.emitOp (if dec then opcodeDec16 p else opcodeInc16 p)) = incLen p + 8 ∧
    Gen.decode (if dec then opcodeDec16 p else opcodeInc16 p) b1 b2 =
      (if dec then .Decrement16 p.reg else .Increment16 p.reg, 1, 8) := by
  cases p <;> cases dec <;> exact ⟨by decide +kernel, by decide +kernel, rfl⟩

theorem step_incdec16_sim (B : BusOps β) (p : Pair) (dec : Bool) {g : Regs} {st s1 : St β} {len : Nat} (hs : Sim g st)
    (h : step B st (.incdec16 dec p.host) len = .ok s1) :
    Sim (setReg16 g p.reg (u16 (getReg16 g p.reg + (if dec then 65535 else 1)))) s1 ∧ Untouched st s1 := by
  refine step16_sim B p _ hs h rfl rfl ?_
  rw [step_incdec16 B st s1 dec p.host len (pair_host_lt p) hs.size h, ← getReg16_sim hs p]
  unfold u16; omega

/-- **INC rr, DEC rr** (BC, DE, HL, SP) -/
theorem sim_incdec16 (p : Pair) (dec : Bool) (b1 b2 : Nat) :
    Simulates (if dec then opcodeDec16 p else opcodeInc16 p) b1 b2 :=
  Simulates.intro (table_incdec16 p dec b1 b2) rfl (by decide) (by decide) rfl
    fun B g _ _ hs _ _ hex => ⟨_, fun _ => by cases dec <;> rfl, step_incdec16_sim B p dec hs (execList_one B hex)⟩

def opcodeLd16 (p : Pair) : Nat := 0x01 + 16 * p.code
def ld16Len (p : Pair) : Nat := match p with | .SP => 5 | _ => 4

theorem table_ld16 (p : Pair) (b1 b2 : Nat) :
    decodeCode (Gen.emitOp (opcodeLd16 p)) = some ([(0, .movi16 p.host [256, 257])] ++ [(ld16Len p, addIp 3), (ld16Len p + 4, addCy 3)]) ∧
    bytesOf (Gen.emitOp (opcodeLd16 p)) = ld16Len p + 8 ∧ Gen.decode (opcodeLd16 p) b1 b2 = (.Load16 p.reg (b1 + 256 * b2), 3, 12) := by
  cases p <;> exact ⟨by decide +kernel, by decide +kernel, rfl⟩

theorem low16_setSz_w (s : St β) (j v : Nat) (hj : j < s.r.size) : (get (setSz s .w j v) j).toNat % 65536 = v % 65536 := by
  rw [toNat_setSz_w _ _ _ hj, Nat.mod_mod_of_dvd _ (by decide)]; omega

theorem step_movi16_ops (B : BusOps β) (d : Nat) {st s1 : St β} {len : Nat} (hd : d < st.r.size)
    (h : step B st (.movi16 d [256, 257]) len = .ok s1) : (get s1 d).toNat % 65536 = (st.op1 + 256 * st.op2) % 65536 := by
  rw [← Except.ok.inj h]
  exact low16_setSz_w ({ st with pc := st.pc + len } : St β) d _ hd

/-- **LD rr,nn** (BC, DE, HL, SP; every operand) -/
theorem sim_ld16 (p : Pair) (b1 b2 : Nat) : Simulates (opcodeLd16 p) b1 b2 :=
  Simulates.intro (table_ld16 p b1 b2) rfl (by decide) (by decide) rfl
    fun B g st _ hs h1 h2 hex => ⟨_, fun _ => rfl, step16_sim B p _ hs (execList_one B hex) rfl rfl
      (h1 ▸ h2 ▸ step_movi16_ops B p.host (hs.size ▸ pair_host_lt p) (execList_one B hex))⟩

theorem step_movw (B : BusOps β) (d src : Nat) {st s1 : St β} {len : Nat} (hd : d < st.r.size)
    (h : step B st (.mov .w d src) len = .ok s1) : (get s1 d).toNat % 65536 = (get st src).toNat % 65536 % 65536 := by
  rw [← Except.ok.inj h]
  exact low16_setSz_w ({ st with pc := st.pc + len } : St β) d _ hd

/-- **LD SP,HL** -/
theorem sim_ld_sp_hl (b1 b2 : Nat) : Simulates 0xf9 b1 b2 :=
  Simulates.intro (body := [(0, .mov .w 12 1)]) (o1 := 4) (o2 := 8) (e := 12) ⟨by decide +kernel, by decide +kernel, rfl⟩ rfl (by decide) (by decide) rfl
    fun B g st _ hs _ _ hex => ⟨_, fun _ => rfl, step16_sim B .SP (getReg16 g .HL) hs (execList_one B hex) rfl rfl
      (getReg16_sim hs .HL ▸ step_movw B 12 1 (hs.size ▸ (by decide)) (execList_one B hex))⟩

end GbVerif.X86
