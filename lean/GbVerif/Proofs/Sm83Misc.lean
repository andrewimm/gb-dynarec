import GbVerif.Proofs.Sm83Abs
/-!
DAA / CPL / SCF / CCF, the 16-bit arithmetic (ADD HL,rp; SP + signed e8; INC/DEC rp), HL post-increment /
post-decrement on concretised SM83 states; the stack primitives `push` / `pop` on any register file with a 16-bit SP.
-/
namespace GbVerif.C05
open GbVerif.Interp GbVerif.Sm83Bits GbVerif.Enum
open GbVerif.SM83 (Cpu mkF flagZ flagN flagH flagC)

/-- DAA: for every accumulator value and every flag nibble the interpreter's `interp_daa` produces the SM83
decimal-adjust result and flags (4096 cases enumerated by the kernel) -/
theorem daa_enum : ∀ n, n < 2^12 →
    let af := (n / 16) * 256 + (n % 16) * 16
    (daa { af := af }).af = (SM83.daa (af / 256) (af % 256)).1 * 256 + (SM83.daa (af / 256) (af % 256)).2 := by
  intro n hn
  have := forall_lt_of_allRange (fun n =>
    let af := (n / 16) * 256 + (n % 16) * 16
    (daa { af := af }).af == (SM83.daa (af / 256) (af % 256)).1 * 256 + (SM83.daa (af / 256) (af % 256)).2) 12 (by decide +kernel) n hn
  simpa using this

theorem daa_wf (a f : Nat) : (SM83.daa a f).1 < 256 ∧ (SM83.daa a f).2 < 256 ∧ (SM83.daa a f).2 % 16 = 0 := by
  unfold SM83.daa
  simp only []
  split
  · exact ⟨Nat.mod_lt _ (by decide), mkF_lt .., mkF_mod ..⟩
  · exact ⟨Nat.mod_lt _ (by decide), mkF_lt .., mkF_mod ..⟩

theorem daa_conc {c : Cpu} (hc : CWF c) (k : Nat) :
    daa (conc c k) = conc { c with a := (SM83.daa c.a c.f).1, f := (SM83.daa c.a c.f).2 } k ∧
    CWF { c with a := (SM83.daa c.a c.f).1, f := (SM83.daa c.a c.f).2 } := by
  obtain ⟨ha, hf, hf0, hb, hc', hd, he, hh, hl, hsp, hpc⟩ := hc
  obtain ⟨w1, w2, w3⟩ := daa_wf c.a c.f
  have h0 : daa (conc c k) = { conc c k with af := (daa { af := (conc c k).af }).af } := rfl
  have h := daa_enum (c.a * 16 + c.f / 16) (by omega)
  simp only [] at h
  have e0 : (c.a * 16 + c.f / 16) / 16 * 256 + (c.a * 16 + c.f / 16) % 16 * 16 = c.a * 256 + c.f := by omega
  have e1 : (c.a * 256 + c.f) / 256 = c.a := by omega
  have e2 : (c.a * 256 + c.f) % 256 = c.f := by omega
  rw [e0, e1, e2] at h
  refine ⟨?_, ?_⟩
  · rw [h0, conc_af, h]; rfl
  · constructor <;> assumption

theorem carryAdd16_eq (a b : Nat) :
    carryAdd16 a b = ((a + b) % 65536, decide (a + b ≥ 65536), decide (a % 4096 + b % 4096 ≥ 4096)) := by
  simp only [carryAdd16, u16, and_fff, and_1000_ne, Prod.mk.injEq, decide_eq_decide, true_and]; omega

/-- SP + signed 8-bit offset: 16-bit result and the two carries from the unsigned low-byte addition -/
theorem addSigned_eq (sp e : Nat) (he : e < 256) :
    addSigned sp e = ((SM83.spPlus sp e).1, decide (sp % 256 + e ≥ 256), decide (sp % 16 + e % 16 ≥ 16)) := by
  have hx := xor_ff e he
  simp only [addSigned, u16, and_ff, and_0f, and_100_ne, and_10_ne, and_80_eq, SM83.spPlus, Prod.mk.injEq,
    decide_eq_decide, hx]
  refine ⟨?_, by omega, by omega⟩
  by_cases h : e < 128
  · have h1 : e / 128 % 2 = 0 := by omega
    simp only [h1, decide_true, if_true, h]
  · have h1 : ¬ (e / 128 % 2 = 0) := by omega
    simp only [h1, decide_false, h, if_false]
    have : (255 - e + 1) % 65536 = 256 - e := by omega
    rw [this]; simp only [Bool.false_eq_true, if_false]; omega

theorem spPlus_flags (sp e : Nat) :
    (SM83.spPlus sp e).2 = mkF false false (decide (sp % 16 + e % 16 ≥ 16)) (decide (sp % 256 + e ≥ 256)) := rfl

theorem spPlus_lt (sp e : Nat) : (SM83.spPlus sp e).1 < 65536 := by
  simp only [SM83.spPlus]; exact Nat.mod_lt _ (by decide)

theorem setSP_conc (c : Cpu) (k v : Nat) : setReg16 (conc c k) .SP v = conc { c with sp := v } k := rfl

/-- INC rp / DEC rp (`d` = 1 or 65535) -/
theorem incdec16_conc {c : Cpu} (hc : CWF c) (k d : Nat) (reg : Reg16) (hr : reg ≠ .AF) :
    setReg16 (conc c k) reg (u16 (getReg16 (conc c k) reg + d)) =
      conc (SM83.setRP c (idx16 reg) ((SM83.getRP c (idx16 reg) + d) % 65536)) k := by
  rw [getReg16_conc hc k reg hr, u16, setReg16_conc k reg hr _ (Nat.mod_lt _ (by decide))]

/-- HL post-increment / post-decrement of LDI / LDD (`d` = 1 or 4294967295) -/
theorem hlStep_conc {c : Cpu} (hc : CWF c) (k d : Nat) :
    { conc c k with hl := u32 ((conc c k).hl + d) &&& 0xffff } = conc (SM83.setHL c ((SM83.hl c + d) % 65536)) k := by
  have h1 := hc.hh; have h2 := hc.hl
  simp only [conc, SM83.setHL, SM83.hl, u32, and_ffff, Regs.mk.injEq, true_and, and_true]
  omega

variable {β : Type}

theorem push_gen (B : BusOps β) (r : Regs) (v : Nat) (m : β) :
    push B v r m =
      (B.write m (u16 (u16 r.sp + 65535)) ((v >>> 8) % 256)).bind fun m1 =>
        (B.write m1 (u16 (u16 (u16 r.sp + 65535) + 65535)) (v &&& 0xff)).bind fun m2 =>
          .ok ({ r with sp := u16 (u16 (u16 r.sp + 65535) + 65535) }, m2) := rfl

theorem pop_gen (B : BusOps β) (r : Regs) (m : β) :
    pop B r m =
      (B.read m (u16 r.sp)).bind fun lo => (B.read m (u16 (u16 r.sp + 1))).bind fun hi =>
        .ok ((hi <<< 8) ||| lo, { r with sp := u16 (u16 (u16 r.sp + 1) + 1) }) := rfl

/-- `push` from a 16-bit SP: high byte at SP−1, low byte at SP−2, SP := SP−2, modulo 65536 -/
theorem push_eq (B : BusOps β) (r : Regs) (v : Nat) (m : β) (hsp : r.sp < 65536) :
    push B v r m =
      (B.write m ((r.sp + 65535) % 65536) (v / 256 % 256)).bind fun m1 =>
        (B.write m1 ((r.sp + 65534) % 65536) (v % 256)).bind fun m2 =>
          .ok ({ r with sp := (r.sp + 65534) % 65536 }, m2) := by
  have e1 : u16 (u16 r.sp + 65535) = (r.sp + 65535) % 65536 := by simp only [u16]; omega
  have e2 : u16 (u16 (u16 r.sp + 65535) + 65535) = (r.sp + 65534) % 65536 := by simp only [u16]; omega
  rw [push_gen, e2, e1, shr8, and_ff]

/-- `pop` from a 16-bit SP: low byte from SP, high byte from SP+1, SP := SP+2, modulo 65536 -/
theorem pop_eq (B : BusOps β) (r : Regs) (m : β) (hsp : r.sp < 65536) :
    pop B r m =
      (B.read m r.sp).bind fun lo => (B.read m ((r.sp + 1) % 65536)).bind fun hi =>
        .ok ((hi <<< 8) ||| lo, { r with sp := (r.sp + 2) % 65536 }) := by
  have e0 : u16 r.sp = r.sp := Nat.mod_eq_of_lt hsp
  have e1 : u16 (r.sp + 1) = (r.sp + 1) % 65536 := rfl
  have e2 : u16 ((r.sp + 1) % 65536 + 1) = (r.sp + 2) % 65536 := by simp only [u16]; omega
  rw [pop_gen, e0, e1, e2]

theorem push16_eq (M : SM83.Mem β) (s : Cpu) (m : β) (v : Nat) :
    SM83.push16 M s m v =
      (M.write m ((s.sp + 65535) % 65536) (v / 256 % 256)).bind fun m1 =>
        (M.write m1 ((s.sp + 65534) % 65536) (v % 256)).bind fun m2 =>
          .ok ({ s with sp := (s.sp + 65534) % 65536 }, m2) := rfl

theorem pop16_eq (M : SM83.Mem β) (s : Cpu) (m : β) :
    SM83.pop16 M s m =
      (M.read m s.sp).bind fun lo => (M.read m ((s.sp + 1) % 65536)).bind fun hi =>
        .ok (hi * 256 + lo, { s with sp := (s.sp + 2) % 65536 }) := rfl

theorem pair_val (hi lo : Nat) (h : lo < 256) : (hi <<< 8) ||| lo = hi * 256 + lo := by
  rw [shl8, or_lo _ _ h]

end GbVerif.C05
