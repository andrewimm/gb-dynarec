import GbVerif.Proofs.Sm83Rel
import GbVerif.Proofs.Sm83Rot
import GbVerif.Proofs.Sm83Misc
/-!
Opcode classes, part 2: loads/stores through the bus, read-modify-write on (HL), LD (nn),SP, PUSH / POP.
-/
namespace GbVerif.C05
open GbVerif.Interp GbVerif.Sm83Bits
open GbVerif.SM83 (Cpu mkF flagZ flagN flagH flagC Outcome)

variable {β : Type} {B : BusOps β} {op : Op} {len clk : Nat}

theorem op_ld_r_hl (hB : ByteBus B) (reg : Reg8) :
    OpRel B (Op.LoadFromIndirect reg .HL) len clk fun c m =>
      (B.read m (SM83.hl c)).bind fun v => .ok (SM83.next (SM83.setR c (idx reg) v) len, m, clk / 4, .normal) :=
  op_read hB (fun _ _ => rfl) (fun _ k hc => getHL_conc hc k)
    fun v _ k hv hc => ⟨setReg_conc hc k reg v hv, cwf_setR hc _ _ hv⟩

/-- LD A,(BC) / LD A,(DE) -/
theorem op_ld_a_ind (hB : ByteBus B) (rp : Reg16) (hrp : rp ≠ .AF)
    (hrun : ∀ r m, runOp B op r m len =
      (B.read m (getReg16 r rp)).bind fun v => .ok (advance (setReg r .A v) len, m, STATUS_NORMAL)) :
    OpRel B op len clk fun c m =>
      (B.read m (SM83.getRP c (idx16 rp))).bind fun v => .ok (SM83.next { c with a := v } len, m, clk / 4, .normal) :=
  op_read hB hrun (fun _ k hc => getReg16_conc hc k rp hrp) fun v _ k hv hc => ⟨setA_conc hc k v hv, cwf_setA hc v hv⟩

/-- LD A,(HL+) / LD A,(HL-): `d` is the interpreter's u32 step, `D` the SM83 16-bit step -/
theorem op_ld_a_hlstep (hB : ByteBus B) (d D : Nat) (hdD : ∀ x, (x + d) % 65536 = (x + D) % 65536)
    (hrun : ∀ r m, runOp B op r m len =
      (B.read m (getReg16 r .HL)).bind fun v =>
        .ok (advance { setReg r .A v with hl := u32 ((setReg r .A v).hl + d) &&& 0xffff } len, m, STATUS_NORMAL)) :
    OpRel B op len clk fun c m =>
      (B.read m (SM83.hl c)).bind fun v =>
        .ok (SM83.next { SM83.setHL c ((SM83.hl c + D) % 65536) with a := v } len, m, clk / 4, .normal) :=
  op_read hB hrun (fun _ k hc => getHL_conc hc k) fun v c k hv hc => by
    have hc2 := cwf_setA hc v hv
    show { setReg (conc c k) .A v with hl := u32 ((setReg (conc c k) .A v).hl + d) &&& 0xffff } = _ ∧ _
    rw [setReg_conc hc k .A v hv]
    simp only [idx, SM83.setR]
    rw [hlStep_conc hc2 k d, hdD]
    exact ⟨rfl, cwf_setHL hc2 _⟩

/-- LDH A,(n) / LD A,(nn): absolute address -/
theorem op_ld_a_abs (hB : ByteBus B) {addrM addrS : Nat} (flag : Bool) (haddr : addrM = addrS) :
    OpRel B (Op.LoadAFromMemory addrM flag) len clk fun c m =>
      (B.read m addrS).bind fun v => .ok (SM83.next { c with a := v } len, m, clk / 4, .normal) :=
  op_read hB (fun _ _ => rfl) (fun _ _ _ => haddr) fun v _ k hv hc => ⟨setA_conc hc k v hv, cwf_setA hc v hv⟩

theorem high_c {c : Cpu} (hc : CWF c) (k : Nat) : 0xff00 ||| getReg (conc c k) .C = 0xff00 + c.c := by
  rw [getReg_conc hc]; exact or_lo 255 _ hc.hc

theorem op_ld_a_c (hB : ByteBus B) :
    OpRel B Op.LoadFromHighMem len clk fun c m =>
      (B.read m (0xff00 + c.c)).bind fun v => .ok (SM83.next { c with a := v } len, m, clk / 4, .normal) :=
  op_read hB (fun _ _ => rfl) (fun _ k hc => high_c hc k) fun v _ k hv hc => ⟨setA_conc hc k v hv, cwf_setA hc v hv⟩

theorem writeR6 (M : SM83.Mem β) (s : Cpu) (m : β) (v : Nat) :
    SM83.writeR M s m 6 v = (M.write m (SM83.hl s) v).bind fun m' => .ok (s, m') := rfl

/-- LD (HL),r and LD (HL),n: a byte written through `r[6]` -/
theorem op_writeR {vm : Regs → Nat} {vs : Cpu → Nat}
    (hrun : ∀ r m, runOp B op r m len =
      (B.write m (getReg16 r .HL) (vm r)).bind fun m' => .ok (advance r len, m', STATUS_NORMAL))
    (hv : ∀ c k, CWF c → vm (conc c k) = vs c) :
    OpRel B op len clk fun c m =>
      (SM83.writeR (memOf B) c m 6 (vs c)).bind fun x => .ok (SM83.next x.1 len, x.2, clk / 4, .normal) := by
  refine ⟨fun c k m hc => ?_⟩
  rw [hrun, getHL_conc hc, hv c k hc, writeR6, bind_bind]
  exact rel_bind _ fun m' _ => rel_advance hc k len clk m' .normal

/-- LD (BC),A / LD (DE),A -/
theorem op_st_a_ind (rp : Reg16) (hrp : rp ≠ .AF)
    (hrun : ∀ r m, runOp B op r m len =
      (B.write m (getReg16 r rp) (getReg r .A)).bind fun m' => .ok (advance r len, m', STATUS_NORMAL)) :
    OpRel B op len clk fun c m =>
      (B.write m (SM83.getRP c (idx16 rp)) c.a).bind fun m' => .ok (SM83.next c len, m', clk / 4, .normal) :=
  op_write hrun (fun _ k hc => ⟨getReg16_conc hc k rp hrp, getA_conc hc k⟩) fun _ _ hc => ⟨rfl, hc⟩

/-- LD (HL+),A / LD (HL-),A -/
theorem op_st_a_hlstep (d D : Nat) (hdD : ∀ x, (x + d) % 65536 = (x + D) % 65536)
    (hrun : ∀ r m, runOp B op r m len =
      (B.write m (getReg16 r .HL) (getReg r .A)).bind fun m' =>
        .ok (advance { r with hl := u32 (r.hl + d) &&& 0xffff } len, m', STATUS_NORMAL)) :
    OpRel B op len clk fun c m =>
      (B.write m (SM83.hl c) c.a).bind fun m' =>
        .ok (SM83.next (SM83.setHL c ((SM83.hl c + D) % 65536)) len, m', clk / 4, .normal) :=
  op_write hrun (fun _ k hc => ⟨getHL_conc hc k, getA_conc hc k⟩)
    fun _ k hc => by rw [hlStep_conc hc k d, hdD]; exact ⟨rfl, cwf_setHL hc _⟩

/-- LDH (n),A / LD (nn),A -/
theorem op_st_a_abs {addrM addrS : Nat} (flag : Bool) (haddr : addrM = addrS) :
    OpRel B (Op.LoadAToMemory addrM flag) len clk fun c m =>
      (B.write m addrS c.a).bind fun m' => .ok (SM83.next c len, m', clk / 4, .normal) :=
  op_write (fun _ _ => rfl) (fun _ k hc => ⟨haddr, getA_conc hc k⟩) fun _ _ hc => ⟨rfl, hc⟩

theorem op_st_a_c :
    OpRel B Op.LoadToHighMem len clk fun c m =>
      (B.write m (0xff00 + c.c) c.a).bind fun m' => .ok (SM83.next c len, m', clk / 4, .normal) :=
  op_write (fun _ _ => rfl) (fun _ k hc => ⟨high_c hc k, getA_conc hc k⟩) fun _ _ hc => ⟨rfl, hc⟩

/-- LD (nn),SP: low byte at nn, high byte at nn+1 -/
theorem op_ld_nn_sp {lo hi : Nat} :
    OpRel B (Op.LoadStackPointerToMemory (lo + 256 * hi)) len clk fun c m =>
      (B.write m (hi * 256 + lo) (c.sp % 256)).bind fun m1 =>
        (B.write m1 ((hi * 256 + lo + 1) % 65536) (c.sp / 256)).bind fun m2 => .ok (SM83.next c len, m2, clk / 4, .normal) := by
  refine ⟨fun c k m hc => ?_⟩
  have hrun : runOp B (Op.LoadStackPointerToMemory (lo + 256 * hi)) (conc c k) m len =
      (B.write m (lo + 256 * hi) (getReg16 (conc c k) .SP &&& 0xff)).bind fun m1 =>
        (B.write m1 (u16 (lo + 256 * hi + 1)) (getReg16 (conc c k) .SP >>> 8)).bind fun m2 =>
          .ok (advance (conc c k) len, m2, STATUS_NORMAL) := rfl
  have e : lo + 256 * hi = hi * 256 + lo := by omega
  rw [hrun, getSP_conc hc, and_ff, shr8, e, u16]
  exact rel_bind _ fun m1 _ => rel_bind _ fun m2 _ => rel_advance hc k len clk m2 .normal

theorem rmwHL_eq (B : BusOps β) (r : Regs) (m : β) (F : Nat → Regs → Nat × Regs) :
    rmwHL B r m F =
      (B.read m (getReg16 r .HL)).bind fun v =>
        (B.write m (getReg16 r .HL) (F v r).1).bind fun m' => .ok ((F v r).2, m') := rfl

/-- read (HL), write back `gv`, registers updated by `g`; the SM83 side writes through `r[6]` from a state `S c` with the
same HL and finishes with `P` -/
theorem op_rmw (hB : ByteBus B) {F : Nat → Regs → Nat × Regs} (S : Cpu → Cpu) {gv : Nat → Cpu → Nat} (P : Cpu → Nat → Cpu → Cpu)
    (g : Nat → Cpu → Cpu)
    (hrun : ∀ r m, runOp B op r m len = (rmwHL B r m F).bind fun x => .ok (advance x.1 len, x.2, STATUS_NORMAL))
    (hS : ∀ c, SM83.hl (S c) = SM83.hl c) (hP : ∀ v c, P c v (S c) = SM83.next (g v c) len)
    (hfg : ∀ v c k, v < 256 → CWF c → F v (conc c k) = (gv v c, conc (g v c) k) ∧ CWF (g v c)) :
    OpRel B op len clk fun c m =>
      (B.read m (SM83.hl c)).bind fun v => (SM83.writeR (memOf B) (S c) m 6 (gv v c)).bind fun x =>
        .ok (P c v x.1, x.2, clk / 4, .normal) := by
  refine ⟨fun c k m hc => ?_⟩
  rw [hrun, rmwHL_eq, getHL_conc hc]
  simp only [bind_bind, ok_bind, writeR6, hS, hP]
  refine rel_bind _ fun v hr => ?_
  obtain ⟨e, w⟩ := hfg v c k (hB _ _ _ hr) hc
  simp only [e]
  exact rel_bind _ fun m' _ => rel_advance w k len clk m' .normal

private theorem m256 (x : Nat) : x % 256 < 256 := Nat.mod_lt _ (by decide)

theorem op_inc_hl (hB : ByteBus B) :
    OpRel B Op.IncrementHLIndirect len clk fun c m =>
      (B.read m (SM83.hl c)).bind fun v => (SM83.writeR (memOf B) c m 6 ((v + 1) % 256)).bind fun x =>
        .ok (SM83.next { x.1 with f := mkF (decide ((v + 1) % 256 = 0)) false (decide (v % 16 = 15)) (flagC x.1.f) } len,
          x.2, clk / 4, .normal) :=
  op_rmw hB id
    (fun _ v s => SM83.next { s with f := mkF (decide ((v + 1) % 256 = 0)) false (decide (v % 16 = 15)) (flagC s.f) } len)
    (fun v c => { c with f := mkF (decide ((v + 1) % 256 = 0)) false (decide (v % 16 = 15)) (flagC c.f) })
    (fun _ _ => rfl) (fun _ => rfl) (fun _ _ => rfl)
    (fun v c k _ hc => by dsimp only; rw [carryAdd1, incFlags_conc hc]; exact ⟨rfl, cwf_mkF hc ..⟩)

theorem op_dec_hl (hB : ByteBus B) :
    OpRel B Op.DecrementHLIndirect len clk fun c m =>
      (B.read m (SM83.hl c)).bind fun v => (SM83.writeR (memOf B) c m 6 ((v + 255) % 256)).bind fun x =>
        .ok (SM83.next { x.1 with f := mkF (decide ((v + 255) % 256 = 0)) true (decide (v % 16 = 0)) (flagC x.1.f) } len,
          x.2, clk / 4, .normal) :=
  op_rmw hB id
    (fun _ v s => SM83.next { s with f := mkF (decide ((v + 255) % 256 = 0)) true (decide (v % 16 = 0)) (flagC s.f) } len)
    (fun v c => { c with f := mkF (decide ((v + 255) % 256 = 0)) true (decide (v % 16 = 0)) (flagC c.f) })
    (fun _ _ => rfl) (fun _ => rfl) (fun _ _ => rfl)
    (fun v c k hv hc => by dsimp only; rw [carrySub1 v hv, decFlags_conc hc]; exact ⟨rfl, cwf_mkF hc ..⟩)

/-- PUSH rr: high byte at SP-1, low byte at SP-2, SP := SP-2 -/
theorem op_push (reg : Reg16) {V : Cpu → Nat} (hV : ∀ c k, CWF c → getReg16 (conc c k) reg = V c) :
    OpRel B (Op.Push reg) len clk fun c m =>
      (SM83.push16 (memOf B) c m (V c)).bind fun x => .ok (SM83.next x.1 len, x.2, clk / 4, .normal) := by
  refine ⟨fun c k m hc => ?_⟩
  have hrun : runOp B (Op.Push reg) (conc c k) m len =
      (push B (getReg16 (conc c k) reg) (conc c k) m).bind fun x => .ok (advance x.1 len, x.2, STATUS_NORMAL) := rfl
  rw [hrun, hV c k hc, push_eq B _ _ _ hc.hsp, push16_eq]
  simp only [bind_bind, ok_bind]
  exact rel_bind _ fun m1 _ => rel_bind _ fun m2 _ =>
    rel_advance (cwf_setSP hc _ (Nat.mod_lt _ (by decide))) k len clk m2 .normal

theorem and_f0 (x : Nat) (h : x < 256) : x &&& 0xf0 = x / 16 * 16 := by
  have := GbVerif.Enum.forall_lt_of_allRange (fun x => x &&& 0xf0 == x / 16 * 16) 8 (by decide +kernel) x h
  simpa using this

/-- where POP places the popped word: the pair table BC DE HL AF of `SM83.step`, the low nibble of F dropped -/
def popTo (s : Cpu) (p v : Nat) : Cpu :=
  match p with
  | 0 => { s with b := v / 256, c := v % 256 } | 1 => { s with d := v / 256, e := v % 256 }
  | 2 => { s with h := v / 256, l := v % 256 } | _ => { s with a := v / 256, f := v % 256 / 16 * 16 }

theorem pop_conc (reg : Reg16) (hreg : reg ≠ .SP) {v : Nat} (hv : v < 65536) {c : Cpu} (hc : CWF c) (k : Nat) :
    setReg16 (conc c k) reg (if reg == .AF then v &&& 0xfff0 else v) = conc (popTo c (idx16 reg) v) k ∧
    CWF (popTo c (idx16 reg) v) := by
  obtain ⟨ha, hf, hf0, hb, hc', hd, he, hh, hl, hsp, hpc⟩ := hc
  have hm : v &&& 0xfff0 = v / 256 * 256 + v % 256 / 16 * 16 := by
    rw [and_split]
    simp only [Nat.reduceDiv, Nat.reduceMod, and_ff, and_f0 _ (Nat.mod_lt v (show 0 < 256 by decide))]
    omega
  cases reg
  case SP => exact absurd rfl hreg
  all_goals
    refine ⟨?_, ?_⟩
    · simp only [setReg16, conc, popTo, idx16, Regs.mk.injEq, true_and, and_true, beq_self_eq_true, if_true, hm,
        beq_iff_eq, reduceCtorEq, if_false]
      try omega
    · constructor <;> first | assumption | (simp only [popTo, idx16]; omega)

/-- POP rr: low byte from SP, high byte from SP+1, SP := SP+2 -/
theorem op_pop (hB : ByteBus B) (reg : Reg16) (hreg : reg ≠ .SP) :
    OpRel B (Op.Pop reg) len clk fun c m =>
      (SM83.pop16 (memOf B) c m).bind fun x => .ok (SM83.next (popTo x.2 (idx16 reg) x.1) len, m, clk / 4, .normal) := by
  refine ⟨fun c k m hc => ?_⟩
  have hrun : runOp B (Op.Pop reg) (conc c k) m len =
      (pop B (conc c k) m).bind fun x =>
        .ok (advance (setReg16 x.2 reg (if reg == .AF then x.1 &&& 0xfff0 else x.1)) len, m, STATUS_NORMAL) := rfl
  rw [hrun, pop_eq B _ _ hc.hsp, pop16_eq]
  simp only [bind_bind, ok_bind]
  refine rel_bind _ fun lo h1 => rel_bind _ fun hi h2 => ?_
  have hlo := hB _ _ _ h1
  have hhi := hB _ _ _ h2
  obtain ⟨e, w⟩ := pop_conc reg hreg (v := hi * 256 + lo) (by omega)
    (cwf_setSP hc ((c.sp + 2) % 65536) (Nat.mod_lt _ (by decide))) k
  have := rel_advance w k len clk m .normal
  rw [← e] at this
  rw [pair_val hi lo hlo]
  exact this

end GbVerif.C05
