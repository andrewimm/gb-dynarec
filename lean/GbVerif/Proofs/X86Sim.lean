import GbVerif.Proofs.X86Paths
import GbVerif.Proofs.X86Stack
/-
C01, the data side: what the template families share.  The relation `Sim` between the guest register file of the
interpreter model and the host registers of the x86 model (guest registers live in the low 16 bits of rax=AF, rcx=HL,
rdx=DE, rbx=BC, r12=SP, r13=PC, r15=cycles; `setAt` replaces the field a host register holds); the correspondence of the
8-bit register accessors (`get8_sim`, `set8_sim`, over the byte arithmetic `pack_*`); straight-line execution (`execList`:
a complete run of jump-free code is the sequence of its steps, `run_execList`); what a step leaves alone (`Keeps`,
`Untouched`); and the skeleton of a template, `body ; add r13, len ; add r15, cycles`: a run is the body, then the guest PC
and the cycle count move on (`run_body_tail`, `template_run`; `run_body_cy` for templates that load the PC themselves).
-/
namespace GbVerif.X86
open GbVerif.JitCycles GbVerif.Interp
variable {β : Type}

/-- the host location of a guest 8-bit register -/
def hostR8 : Reg8 → R8
  | .A => .hi 0 | .B => .hi 3 | .C => .lo 3 | .D => .hi 2 | .E => .lo 2 | .H => .hi 1 | .L => .lo 1

/-- the host register holding a guest register pair -/
def hostR16 : Reg16 → Nat
  | .AF => 0 | .HL => 1 | .DE => 2 | .BC => 3 | .SP => 12

/-- guest register file ↔ host registers: equal modulo 2^16, register by register -/
structure Sim (g : Regs) (s : St β) : Prop where
  af : (get s 0).toNat % 65536 = g.af % 65536
  hl : (get s 1).toNat % 65536 = g.hl % 65536
  de : (get s 2).toNat % 65536 = g.de % 65536
  bc : (get s 3).toNat % 65536 = g.bc % 65536
  sp : (get s 12).toNat % 65536 = g.sp % 65536
  ip : (get s 13).toNat % 65536 = g.ip % 65536
  cy : (get s 15).toNat % 65536 = g.cycles % 65536
  size : s.r.size = 16

/-- `g` with the field that lives in host register `k` replaced by `v`; `g` when `k` holds no guest register -/
def setAt (g : Regs) (k v : Nat) : Regs :=
  { af := if k = 0 then v else g.af, bc := if k = 3 then v else g.bc, de := if k = 2 then v else g.de,
    hl := if k = 1 then v else g.hl, sp := if k = 12 then v else g.sp, ip := if k = 13 then v else g.ip,
    cycles := if k = 15 then v else g.cycles }

/-- for a literal `k` the register file unfolds to `{ g with … := v }` (to `g` for `k = 14`) -/
theorem sim_setAt {g : Regs} {s s1 : St β} (h : Sim g s) (k v : Nat) (hf : ∀ j, k ≠ j → get s1 j = get s j)
    (hv : (get s1 k).toNat % 65536 = v % 65536) (hsz : s1.r.size = 16) : Sim (setAt g k v) s1 := by
  have fld : ∀ j x, (get s j).toNat % 65536 = x % 65536 → (get s1 j).toNat % 65536 = (if k = j then v else x) % 65536 := by
    intro j x hx
    split
    · next e => exact e ▸ hv
    · next e => rw [hf j e]; exact hx
  exact ⟨fld 0 _ h.af, fld 1 _ h.hl, fld 2 _ h.de, fld 3 _ h.bc, fld 12 _ h.sp, fld 13 _ h.ip, fld 15 _ h.cy, hsz⟩

/-- a bitwise operation acts separately on the high part and the low byte of `a * 256 + x` -/
theorem pack_bitwise (op : Nat → Nat → Nat) (f : Bool → Bool → Bool)
    (hop : ∀ a b j, (op a b).testBit j = f (a.testBit j) (b.testBit j))
    (a x m k : Nat) (hx : x < 256) (hk : k < 256) (hlt : op x k < 256) :
    op (a * 256 + x) (m * 256 + k) = op a m * 256 + op x k := by
  apply Nat.eq_of_testBit_eq
  intro j
  rw [hop, Nat.mul_comm a, Nat.mul_comm m, Nat.mul_comm (op a m), show (256 : Nat) = 2 ^ 8 from rfl,
    Nat.testBit_two_pow_mul_add _ hx, Nat.testBit_two_pow_mul_add _ hk, Nat.testBit_two_pow_mul_add _ hlt]
  split <;> rw [hop]

theorem pack_and (a f m k : Nat) (hf : f < 256) (hk : k < 256) :
    (a * 256 + f) &&& (m * 256 + k) = (a &&& m) * 256 + (f &&& k) :=
  pack_bitwise _ _ (fun _ _ _ => Nat.testBit_and ..) a f m k hf hk (Nat.lt_of_le_of_lt Nat.and_le_left hf)

theorem pack_or (a f m k : Nat) (hf : f < 256) (hk : k < 256) :
    (a * 256 + f) ||| (m * 256 + k) = (a ||| m) * 256 + (f ||| k) :=
  pack_bitwise _ _ (fun _ _ _ => Nat.testBit_or ..) a f m k hf hk (Nat.or_lt_two_pow (n := 8) hf hk)

theorem pack_xor (a f m k : Nat) (hf : f < 256) (hk : k < 256) :
    (a * 256 + f) ^^^ (m * 256 + k) = (a ^^^ m) * 256 + (f ^^^ k) :=
  pack_bitwise _ _ (fun _ _ _ => Nat.testBit_xor ..) a f m k hf hk (Nat.xor_lt_two_pow (n := 8) hf hk)

theorem and_00ff (p : Nat) : p &&& 0x00ff = p % 256 := Nat.and_two_pow_sub_one_eq_mod p 8

theorem and_255 (a : Nat) (ha : a < 256) : a &&& 255 = a := (and_00ff a).trans (Nat.mod_eq_of_lt ha)

theorem and_ff00 (p : Nat) : p &&& 0xff00 = (p / 256 % 256) * 256 := by
  have h := pack_and (p / 256) (p % 256) 255 0 (Nat.mod_lt _ (by decide)) (by decide)
  rw [Nat.div_add_mod' p 256, and_00ff, Nat.and_zero, Nat.add_zero, Nat.add_zero] at h
  exact h

theorem getHi_eq (p : Nat) : getHi p = p / 256 % 256 := by
  unfold getHi; rw [Nat.shiftRight_eq_div_pow]

theorem setHi_eq (p v : Nat) : setHi p v = v * 256 + p % 256 := by
  unfold setHi
  rw [and_00ff, Nat.shiftLeft_eq, Nat.or_comm, or_disjoint v (p % 256) 8 (Nat.mod_lt _ (by decide))]

theorem setLo_eq (p v : Nat) (hv : v < 256) : setLo p v = (p / 256 % 256) * 256 + v := by
  unfold setLo
  rw [and_ff00]
  exact or_disjoint _ v 8 hv

theorem getHi_setHi (p x : Nat) (hx : x < 256) : getHi (setHi p x) = x := by rw [getHi_eq, setHi_eq]; omega
theorem getLo_setLo (p x : Nat) (hx : x < 256) : getLo (setLo p x) = x := by rw [setLo_eq _ _ hx]; unfold getLo; omega

theorem getReg_setReg_self (g : Regs) (r : Reg8) (x : Nat) (hx : x < 256) : getReg (setReg g r x) r = x := by
  cases r
  case C | E | L => exact getLo_setLo _ x hx
  all_goals exact getHi_setHi _ x hx

theorem toNat_set8_hi (s : St β) (j v : Nat) (hj : j < s.r.size) :
    (get (set8 s (.hi j) v) j).toNat = ((get s j).toNat - ((get s j).toNat / 256 % 256) * 256 + (v % 256) * 256) % 2 ^ 64 := by
  simp only [set8]
  rw [get_set_eq _ _ _ hj, BitVec.toNat_ofNat]

theorem toNat_set8_lo (s : St β) (j v : Nat) (hj : j < s.r.size) :
    (get (set8 s (.lo j) v) j).toNat = ((get s j).toNat - (get s j).toNat % 256 + v % 256) % 2 ^ 64 := by
  simp only [set8]
  rw [get_set_eq _ _ _ hj, BitVec.toNat_ofNat]

theorem low16_bytes {x p : Nat} (h : x % 65536 = p % 65536) : x / 256 % 256 = getHi p ∧ x % 256 = getLo p := by
  rw [getHi_eq]; unfold getLo; omega

theorem get8_sim {g : Regs} {s : St β} (h : Sim g s) (r : Reg8) : get8 s (hostR8 r) = getReg g r := by
  cases r
  · exact (low16_bytes h.af).1
  · exact (low16_bytes h.bc).1
  · exact (low16_bytes h.bc).2
  · exact (low16_bytes h.de).1
  · exact (low16_bytes h.de).2
  · exact (low16_bytes h.hl).1
  · exact (low16_bytes h.hl).2

theorem low16_set8_hi (s : St β) (j v : Nat) (hj : j < s.r.size) (hv : v < 256) :
    (get (set8 s (.hi j) v) j).toNat % 65536 = v * 256 + (get s j).toNat % 256 := by
  rw [toNat_set8_hi _ _ _ hj, Nat.mod_mod_of_dvd _ (by decide)]; omega

theorem low16_set8_lo (s : St β) (j v : Nat) (hj : j < s.r.size) (hv : v < 256) :
    (get (set8 s (.lo j) v) j).toNat % 65536 = (get s j).toNat / 256 % 256 * 256 + v := by
  rw [toNat_set8_lo _ _ _ hj, Nat.mod_mod_of_dvd _ (by decide)]; omega

theorem sim_set8_hi {g : Regs} {s : St β} (h : Sim g s) (k v p : Nat) (hk : k < 16) (hv : v < 256)
    (hp : (get s k).toNat % 65536 = p % 65536) : Sim (setAt g k (setHi p v)) (set8 s (.hi k) v) := by
  refine sim_setAt h k _ (fun j hj => get_set8_ne _ _ _ _ hj) ?_ ((size_set8 _ _ _).trans h.size)
  rw [low16_set8_hi _ _ _ (h.size ▸ hk) hv, setHi_eq, (low16_bytes hp).2]
  exact (Nat.mod_eq_of_lt (by unfold getLo; omega)).symm

theorem sim_set8_lo {g : Regs} {s : St β} (h : Sim g s) (k v p : Nat) (hk : k < 16) (hv : v < 256)
    (hp : (get s k).toNat % 65536 = p % 65536) : Sim (setAt g k (setLo p v)) (set8 s (.lo k) v) := by
  refine sim_setAt h k _ (fun j hj => get_set8_ne _ _ _ _ hj) ?_ ((size_set8 _ _ _).trans h.size)
  rw [low16_set8_lo _ _ _ (h.size ▸ hk) hv, setLo_eq _ _ hv, (low16_bytes hp).1, getHi_eq]
  exact (Nat.mod_eq_of_lt (by omega)).symm

theorem set8_sim {g : Regs} {s : St β} (h : Sim g s) (r : Reg8) (v : Nat) (hv : v < 256) :
    Sim (setReg g r v) (set8 s (hostR8 r) v) := by
  cases r
  · exact sim_set8_hi h 0 v _ (by decide) hv h.af
  · exact sim_set8_hi h 3 v _ (by decide) hv h.bc
  · exact sim_set8_lo h 3 v _ (by decide) hv h.bc
  · exact sim_set8_hi h 2 v _ (by decide) hv h.de
  · exact sim_set8_lo h 2 v _ (by decide) hv h.de
  · exact sim_set8_hi h 1 v _ (by decide) hv h.hl
  · exact sim_set8_lo h 1 v _ (by decide) hv h.hl

/-- the offset of the first instruction of `rest`, the end offset if there is none -/
def headOff (endOff : Nat) : List (Nat × Instr) → Nat
  | (o, _) :: _ => o
  | [] => endOff

/-- the instructions of a list one after the other (each with its length in bytes: the distance to the next offset) -/
def execList (B : BusOps β) (endOff : Nat) : List (Nat × Instr) → St β → Except Fault (St β)
  | [], s => .ok s
  | (off, ins) :: rest, s =>
    match step B s ins (headOff endOff rest - off) with
    | .ok s1 => execList B endOff rest s1
    | .error e => .error e

def straight (code : List (Nat × Instr)) : Prop :=
  ∀ p ∈ code, (∀ c rel, p.2 ≠ .jcc c rel) ∧ (∀ rel, p.2 ≠ .jmp rel)

theorem offAt_drop (code : List (Nat × Instr)) (endOff i : Nat) : headOff endOff (code.drop i) = offAt code endOff i := by
  unfold offAt
  rw [← List.head?_drop]
  cases code.drop i <;> rfl

theorem execList_step (B : BusOps β) {endOff off : Nat} {ins : Instr} {rest : List (Nat × Instr)} {s s1 : St β}
    (h : step B s ins (headOff endOff rest - off) = .ok s1) :
    execList B endOff ((off, ins) :: rest) s = execList B endOff rest s1 := by
  rw [execList, h]

/-- a complete run of jump-free code is the sequence of its steps -/
theorem run_execList (B : BusOps β) (code : List (Nat × Instr)) (endOff : Nat) (hok : codeOk code endOff = true)
    (hst : straight code) : ∀ (n i : Nat), i + n = code.length → ∀ (fr : Nat) (s s' : St β), s.pc = offAt code endOff i →
      run B code endOff fr s = .ok s' → execList B endOff (code.drop i) s = .ok s' := by
  intro n
  induction n with
  | zero =>
    intro i hi fr s s' hpc hrun
    cases hi
    rw [List.drop_length]
    cases fr with
    | zero => cases hrun
    | succ fr =>
      rw [run, hpc, offAt_length, beq_self_eq_true, if_pos rfl] at hrun
      exact hrun
  | succ n ih =>
    intro i hi fr s s' hpc hrun
    have hil : i < code.length := by omega
    cases fr with
    | zero => cases hrun
    | succ fr =>
      have hoff := offAt_of_get (endOff := endOff) (List.getElem?_eq_getElem hil)
      obtain ⟨s1, hstep, hrun1⟩ := run_unfold B hok (List.getElem?_eq_getElem hil) (hpc.trans hoff) hrun
      have hmono := (codeOk_at hok hil).2.2
      have hs := hst code[i] (List.getElem_mem hil)
      have hpc1 : s1.pc = offAt code endOff (i + 1) := by
        rw [(step_size_pc B s s1 _ _ hstep).2 hs.1 hs.2, hpc]; omega
      rw [← offAt_drop] at hstep
      rw [List.drop_eq_getElem_cons hil]
      exact (execList_step B hstep).trans (ih (i + 1) (by omega) fr s1 s' hpc1 hrun1)

/-- bus, host stack and r14 (the block's status) as before: what the templates without a helper call guarantee beside `Sim` -/
structure Untouched (s s1 : St β) : Prop where
  bus : s1.bus = s.bus
  stack : s1.stack = s.stack
  r14 : get s1 14 = get s 14

theorem Untouched.refl (s : St β) : Untouched s s := ⟨rfl, rfl, rfl⟩
theorem Untouched.trans {s s1 s2 : St β} (a : Untouched s s1) (b : Untouched s1 s2) : Untouched s s2 :=
  ⟨b.bus.trans a.bus, b.stack.trans a.stack, b.r14.trans a.r14⟩

/-- neither a helper call nor an access to the host stack -/
def plain : Instr → Bool
  | .callRax | .push _ | .pop _ | .pushf | .popf | .store .. | .store8 .. => false
  | _ => true

theorem step_plain (B : BusOps β) {s s1 : St β} {ins : Instr} {len : Nat} (h : step B s ins len = .ok s1) (hp : plain ins = true) :
    s1.bus = s.bus ∧ s1.stack = s.stack ∧ s1.r.size = s.r.size ∧ ∀ j, destReg ins ≠ some j → get s1 j = get s j := by
  have ne : ∀ i, plain i = false → ins ≠ i := fun i hi e => by rw [e, hi] at hp; cases hp
  exact ⟨step_bus B s s1 ins len h (ne _ rfl),
    step_stack B s s1 ins len h (fun _ => ne _ rfl) (fun _ => ne _ rfl) (ne _ rfl) (ne _ rfl) (fun _ _ _ _ => ne _ rfl)
      (fun _ _ _ => ne _ rfl),
    (step_size_pc B s s1 ins len h).1, fun j hd => step_frame B s s1 ins len j h (ne _ rfl) hd⟩

/-- what a plain instruction with destination `d` leaves alone: the other registers, the bus, the host stack, the number of
registers -/
structure Keeps (s s1 : St β) (d : Nat) : Prop where
  regs : ∀ j, d ≠ j → get s1 j = get s j
  bus : s1.bus = s.bus
  stack : s1.stack = s.stack
  size : s1.r.size = s.r.size

theorem Keeps.trans {s s1 s2 : St β} {d : Nat} (a : Keeps s s1 d) (b : Keeps s1 s2 d) : Keeps s s2 d :=
  ⟨fun j hj => (b.regs j hj).trans (a.regs j hj), b.bus.trans a.bus, b.stack.trans a.stack, b.size.trans a.size⟩

theorem keeps_step (B : BusOps β) (s s1 : St β) (ins : Instr) (len d : Nat) (h : step B s ins len = .ok s1)
    (hd : destReg ins = some d) (hp : plain ins = true) : Keeps s s1 d :=
  have ⟨hb, hk, hsz, hf⟩ := step_plain B h hp
  ⟨fun j hj => hf j (by rw [hd]; exact fun e => hj (Option.some.inj e)), hb, hk, hsz⟩

theorem untouched_step (B : BusOps β) {s s1 : St β} {ins : Instr} {len : Nat} (h : step B s ins len = .ok s1)
    (hp : plain ins = true) (hd : destReg ins ≠ some 14) : Untouched s s1 :=
  have ⟨hb, hk, _, hf⟩ := step_plain B h hp
  ⟨hb, hk, hf 14 hd⟩

theorem step_dest_sim (B : BusOps β) (k v : Nat) {ins : Instr} {g : Regs} {st s1 : St β} {len : Nat} (hs : Sim g st)
    (h : step B st ins len = .ok s1) (hd : destReg ins = some k) (hp : plain ins = true) (hk : k ≠ 14)
    (hv : (get s1 k).toNat % 65536 = v % 65536) : Sim (setAt g k v) s1 ∧ Untouched st s1 :=
  have ⟨_, _, hsz, hf⟩ := step_plain B h hp
  ⟨sim_setAt hs k v (fun j hj => hf j (hd ▸ fun e => hj (Option.some.inj e))) hv (hsz.trans hs.size),
   untouched_step B h hp (hd ▸ fun e => hk (Option.some.inj e))⟩

theorem step_add_q_sim (B : BusOps β) {g : Regs} {s s1 : St β} (h : Sim g s) (r n len x : Nat) (hr : r < 16) (hn : n < 128)
    (hx : (get s r).toNat % 65536 = x % 65536) (hstep : step B s (.aluI .add .q r [n] true) len = .ok s1) :
    Sim (setAt g r (x + n)) s1 := by
  have ⟨_, _, hsz, hf⟩ := step_plain B hstep rfl
  refine sim_setAt h r _ (fun j hj => hf j fun e => hj (Option.some.inj e)) ?_ (hsz.trans h.size)
  rw [step_add_q B s s1 r n len hr hn h.size hstep, Nat.mod_mod_of_dvd _ (by decide)]
  omega

theorem sim_pc {g : Regs} {s : St β} (h : Sim g s) (pc' : Nat) : Sim g { s with pc := pc' } :=
  ⟨h.af, h.hl, h.de, h.bc, h.sp, h.ip, h.cy, h.size⟩

theorem sim_fl {g : Regs} {s : St β} (h : Sim g s) (fl : Flags) : Sim g { s with fl := fl } :=
  ⟨h.af, h.hl, h.de, h.bc, h.sp, h.ip, h.cy, h.size⟩

/-- `add r13, n`, a template's last instruction but one: the guest PC past the instruction -/
def addIp (n : Nat) : Instr := .aluI .add .q 13 [n] true
/-- `add r15, n`, a template's last instruction: its machine cycles -/
def addCy (n : Nat) : Instr := .aluI .add .q 15 [n] true

theorem execList_cons (B : BusOps β) (endOff off : Nat) (ins : Instr) (rest : List (Nat × Instr)) (s s' : St β)
    (h : execList B endOff ((off, ins) :: rest) s = .ok s') :
    ∃ s1, step B s ins (headOff endOff rest - off) = .ok s1 ∧ execList B endOff rest s1 = .ok s' := by
  cases hs : step B s ins (headOff endOff rest - off) with
  | error e => rw [execList, hs] at h; cases h
  | ok s1 => exact ⟨s1, rfl, execList_step B hs ▸ h⟩

theorem execList_nil (B : BusOps β) (endOff : Nat) (s s' : St β) (h : execList B endOff [] s = .ok s') : s' = s :=
  (Except.ok.inj h).symm

theorem execList_one (B : BusOps β) {endOff off : Nat} {ins : Instr} {s s' : St β} (h : execList B endOff [(off, ins)] s = .ok s') :
    step B s ins (endOff - off) = .ok s' := by
  obtain ⟨s1, h1, h2⟩ := execList_cons B _ _ _ _ _ _ h
  rw [execList_nil B _ _ _ h2]; exact h1

theorem execList_append (B : BusOps β) (endOff : Nat) (l2 : List (Nat × Instr)) :
    ∀ (l1 : List (Nat × Instr)) (s s' : St β), execList B endOff (l1 ++ l2) s = .ok s' →
      ∃ s1, execList B (headOff endOff l2) l1 s = .ok s1 ∧ execList B endOff l2 s1 = .ok s'
  | [], s, s', h => ⟨s, rfl, h⟩
  | (off, ins) :: rest, s, s', h => by
    obtain ⟨s1, h1, h2⟩ := execList_cons B endOff off ins (rest ++ l2) s s' h
    obtain ⟨s2, h3, h4⟩ := execList_append B endOff l2 rest s1 s' h2
    refine ⟨s2, ?_, h4⟩
    have hh : headOff endOff (rest ++ l2) = headOff (headOff endOff l2) rest := by cases rest <;> rfl
    rw [hh] at h1
    rw [execList_step B h1]; exact h3

/-- no jump in the code (`straight`, as a check) -/
def noJump (code : List (Nat × Instr)) : Bool :=
  code.all fun p => match p.2 with | .jcc .. | .jmp _ => false | _ => true

theorem straight_of_noJump {code : List (Nat × Instr)} (h : noJump code = true) : straight code := by
  intro p hp
  have hp := List.all_eq_true.mp h p hp
  exact ⟨fun _ _ e => (by rw [e] at hp; cases hp), fun _ e => by rw [e] at hp; cases hp⟩

theorem straight_app {l1 l2 : List (Nat × Instr)} (h1 : straight l1) (h2 : straight l2) : straight (l1 ++ l2) := by
  intro p hp
  rcases List.mem_append.mp hp with h | h
  · exact h1 p h
  · exact h2 p h

theorem run_body_cy (B : BusOps β) {body : List (Nat × Instr)} {o2 e c : Nat} (hok : codeOk (body ++ [(o2, addCy c)]) e = true)
    (hst : straight body) (hc : c < 128) {fuel : Nat} {st st' : St β} (hpc : st.pc = offAt (body ++ [(o2, addCy c)]) e 0)
    (hrun : run B (body ++ [(o2, addCy c)]) e fuel st = .ok st') :
    ∃ s1, execList B o2 body st = .ok s1 ∧ Untouched s1 st' ∧ ∀ g1, Sim g1 s1 → Sim { g1 with cycles := g1.cycles + c } st' := by
  have hex := run_execList B _ e hok (straight_app hst (straight_of_noJump (code := [(o2, addCy c)]) rfl)) _ 0 (Nat.zero_add _) fuel st st' hpc hrun
  rw [List.drop_zero] at hex
  obtain ⟨s1, hb, ht⟩ := execList_append B e _ body st st' hex
  exact ⟨s1, hb, untouched_step B (execList_one B ht) rfl nofun,
    fun g1 hs => step_add_q_sim B hs 15 c _ _ (by decide) hc hs.cy (execList_one B ht)⟩

theorem run_body_tail (B : BusOps β) {body : List (Nat × Instr)} {o1 o2 e n c : Nat}
    (hok : codeOk (body ++ [(o1, addIp n), (o2, addCy c)]) e = true) (hst : straight body) (hn : n < 128) (hc : c < 128)
    {fuel : Nat} {st st' : St β} (hpc : st.pc = offAt (body ++ [(o1, addIp n), (o2, addCy c)]) e 0)
    (hrun : run B (body ++ [(o1, addIp n), (o2, addCy c)]) e fuel st = .ok st') :
    ∃ s1, execList B o1 body st = .ok s1 ∧ Untouched s1 st' ∧
      ∀ g1, Sim g1 s1 → Sim { g1 with ip := g1.ip + n, cycles := g1.cycles + c } st' := by
  have ha : body ++ [(o1, addIp n), (o2, addCy c)] = (body ++ [(o1, addIp n)]) ++ [(o2, addCy c)] :=
    (List.append_assoc body [(o1, addIp n)] [(o2, addCy c)]).symm
  rw [ha] at hok hpc hrun
  obtain ⟨s2, hex, hu2, h2⟩ := run_body_cy B hok (straight_app hst (straight_of_noJump (code := [(o1, addIp n)]) rfl)) hc hpc hrun
  obtain ⟨s1, hb, ht⟩ := execList_append B o2 _ body st s2 hex
  exact ⟨s1, hb, (untouched_step B (execList_one B ht) rfl nofun).trans hu2,
    fun g1 hs => h2 _ (step_add_q_sim B hs 13 n _ _ (by decide) hn hs.ip (execList_one B ht))⟩

theorem sim_body (B : BusOps β) (body : List (Nat × Instr)) (o1 o2 e n c : Nat) (g g1 : Regs)
    (hok : codeOk (body ++ [(o1, addIp n), (o2, addCy c)]) e = true) (hst : straight body) (hn : n < 128) (hc : c < 128)
    (hbody : ∀ st s1 : St β, Sim g st → execList B o1 body st = .ok s1 → Sim g1 s1 ∧ Untouched st s1)
    (fuel : Nat) (st st' : St β) (hsim : Sim g st) (hpc : st.pc = offAt (body ++ [(o1, addIp n), (o2, addCy c)]) e 0)
    (hrun : run B (body ++ [(o1, addIp n), (o2, addCy c)]) e fuel st = .ok st') :
    Sim { g1 with ip := g1.ip + n, cycles := g1.cycles + c } st' ∧ Untouched st st' := by
  obtain ⟨s1, hb, hu, ht⟩ := run_body_tail B hok hst hn hc hpc hrun
  obtain ⟨hs1, hu1⟩ := hbody st s1 hsim hb
  exact ⟨ht g1 hs1, hu1.trans hu⟩

/-- from the table row of a template `body ; add r13, n ; add r15, c`: every complete run from offset 0 is the body, then the
guest PC and the cycle count move on.  What the decoder returns is laid out consistently from offset 0
(`decodeCode_codeOk`), so of the body only the absence of jumps is asked -/
theorem template_run {t : List Nat} {body : List (Nat × Instr)} {o1 o2 n c : Nat}
    (hdec : decodeCode t = some (body ++ [(o1, addIp n), (o2, addCy c)])) (hnj : noJump body = true) (hn : n < 128) (hc : c < 128) :
    ∃ code, decodeCode t = some code ∧ ∀ (β : Type) (B : BusOps β) (fuel : Nat) (st st' : St β), st.pc = 0 →
      run B code (bytesOf t) fuel st = .ok st' →
      ∃ s1, execList B o1 body st = .ok s1 ∧ Untouched s1 st' ∧
        ∀ g1, Sim g1 s1 → Sim { advance g1 n with cycles := (advance g1 n).cycles + c } st' := by
  obtain ⟨hok, h0⟩ := decodeCode_codeOk hdec
  exact ⟨_, hdec, fun β B fuel st st' hpc hrun => run_body_tail B hok (straight_of_noJump hnj) hn hc (hpc.trans h0.symm) hrun⟩

end GbVerif.X86
