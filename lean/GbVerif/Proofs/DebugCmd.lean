import GbVerif.Proofs.DebugAddr
/-!
Lemmas for C20, command part: `split_whitespace` on lines of the shape `white* word (white …)`, the model's
tokens are the spec's words, `parse_command` factors through the spec's `interp`, and is allowed by the spec.
-/
namespace GbVerif.DebugCmd
open GbVerif.Debug GbVerif.DebugSpec GbVerif.DebugAddr

theorem splitOnP_ne_nil (p : Char → Bool) (s : List Char) : splitOnP p s ≠ [] := by
  cases s with
  | nil => simp [splitOnP]
  | cons c cs =>
    unfold splitOnP
    split
    · simp
    · split <;> simp

theorem headD_cons_tail {α} (l : List (List α)) (h : l ≠ []) : l.headD [] :: l.tail = l := by
  cases l with
  | nil => exact absurd rfl h
  | cons a b => rfl

theorem splitOnP_white {p : Char → Bool} {c : Char} (h : p c = true) (cs : List Char) :
    splitOnP p (c :: cs) = [] :: splitOnP p cs := by
  simp [splitOnP, h]

theorem splitOnP_nonwhite {p : Char → Bool} {c : Char} (h : p c = false) (cs : List Char) :
    splitOnP p (c :: cs) = (c :: (splitOnP p cs).headD []) :: (splitOnP p cs).tail := by
  have hne := splitOnP_ne_nil p cs
  rw [splitOnP]
  simp only [h]
  cases hs : splitOnP p cs with
  | nil => exact absurd hs hne
  | cons a b => simp

theorem splitOnP_word (p : Char → Bool) (w rest : List Char) (hw : ∀ c ∈ w, p c = false) :
    splitOnP p (w ++ rest) = (w ++ (splitOnP p rest).headD []) :: (splitOnP p rest).tail := by
  induction w with
  | nil => simp only [List.nil_append]; exact (headD_cons_tail _ (splitOnP_ne_nil p rest)).symm
  | cons c w ih =>
    rw [List.cons_append, splitOnP_nonwhite (hw c (List.mem_cons_self ..)),
      ih (fun x hx => hw x (List.mem_cons_of_mem _ hx))]
    simp

/-- no piece of a split contains a separator -/
theorem splitOnP_mem (p : Char → Bool) (s : List Char) : ∀ seg ∈ splitOnP p s, ∀ c ∈ seg, p c = false := by
  induction s with
  | nil => simp [splitOnP]
  | cons c cs ih =>
    rw [splitOnP]
    split
    · exact List.forall_mem_cons.mpr ⟨fun _ h => (nomatch h), ih⟩
    · next h =>
      have hc : ∀ seg : List Char, (∀ x ∈ seg, p x = false) → ∀ x ∈ c :: seg, p x = false :=
        fun _ hs => List.forall_mem_cons.mpr ⟨Bool.eq_false_iff.mpr h, hs⟩
      split
      · next seg segs hs =>
        rw [hs, List.forall_mem_cons] at ih
        exact List.forall_mem_cons.mpr ⟨hc _ ih.1, ih.2⟩
      · exact List.forall_mem_cons.mpr ⟨hc _ fun _ h => (nomatch h), fun _ h => nomatch h⟩

/-- tokens of `split_whitespace` are non-empty and contain no whitespace -/
theorem sw_mem (E : Env) (s : List Char) : ∀ t ∈ splitWhitespace E s, t ≠ [] ∧ ∀ c ∈ t, E.isWhite c = false := by
  intro t ht
  unfold splitWhitespace at ht
  rw [List.mem_filter] at ht
  refine ⟨?_, splitOnP_mem _ _ t ht.1⟩
  intro h; subst h; simp at ht

theorem sw_nil (E : Env) : splitWhitespace E [] = [] := by simp [splitWhitespace, splitOnP]

theorem sw_white_prefix (E : Env) (pre s : List Char) (h : ∀ c ∈ pre, E.isWhite c = true) :
    splitWhitespace E (pre ++ s) = splitWhitespace E s := by
  induction pre with
  | nil => rfl
  | cons c pre ih =>
    have hc := h c (List.mem_cons_self ..)
    unfold splitWhitespace at ih ⊢
    rw [List.cons_append, splitOnP_white hc]
    simp only [List.filter_cons, List.isEmpty_nil, Bool.not_true]
    exact ih (fun x hx => h x (List.mem_cons_of_mem _ hx))

/-- what may follow a word: nothing, or something starting with whitespace -/
def Sep (E : Env) (rest : List Char) : Prop := rest = [] ∨ ∃ c r, rest = c :: r ∧ E.isWhite c = true

/-- a non-empty run of non-whitespace followed by a separator is the first token -/
theorem sw_word (E : Env) (w rest : List Char) (hne : w ≠ []) (hw : ∀ c ∈ w, E.isWhite c = false)
    (hrest : Sep E rest) : splitWhitespace E (w ++ rest) = w :: splitWhitespace E rest := by
  have hwne : (!w.isEmpty) = true := by cases w with
    | nil => exact absurd rfl hne
    | cons _ _ => rfl
  unfold splitWhitespace
  rw [splitOnP_word _ w rest hw]
  rcases hrest with rfl | ⟨c, r, rfl, hc⟩
  · simp [splitOnP, hwne]
  · rw [splitOnP_white hc]
    simp [hwne]

/-- `white* word sep` : the word is the first token -/
theorem sw_line (E : Env) (pre w rest : List Char) (hpre : ∀ c ∈ pre, E.isWhite c = true) (hne : w ≠ [])
    (hw : ∀ c ∈ w, E.isWhite c = false) (hrest : Sep E rest) :
    splitWhitespace E (pre ++ w ++ rest) = w :: splitWhitespace E rest := by
  rw [List.append_assoc, sw_white_prefix E pre _ hpre, sw_word E w rest hne hw hrest]

/-! ### the spec's words are the model's tokens -/

theorem tokensAux_eq (p : Char → Bool) (s cur : List Char) :
    tokensAux p s cur =
      (((cur.reverse ++ (splitOnP p s).headD []) :: (splitOnP p s).tail).filter fun t => !t.isEmpty) := by
  induction s generalizing cur with
  | nil =>
    simp only [tokensAux, splitOnP, List.headD_cons, List.append_nil, List.tail_cons, List.filter_cons,
      List.filter_nil, List.isEmpty_reverse]
    cases cur <;> simp
  | cons c cs ih =>
    have hne := splitOnP_ne_nil p cs
    by_cases h : p c = true
    · rw [splitOnP_white h]
      simp only [tokensAux, h, if_true, List.headD_cons, List.append_nil, List.tail_cons, List.filter_cons,
        List.isEmpty_reverse]
      have ih0 := ih []
      simp only [List.reverse_nil, List.nil_append, headD_cons_tail _ hne] at ih0
      cases cur with
      | nil => simp [ih0]
      | cons a b => simp [ih0]
    · have h' : p c = false := by simpa using h
      rw [splitOnP_nonwhite h']
      simp only [tokensAux, h', Bool.false_eq_true, if_false, List.headD_cons, List.tail_cons]
      rw [ih (c :: cur)]
      simp

/-- **the spec's words of a line are exactly the tokens `split_whitespace` yields** -/
theorem tokens_eq (E : Env) (s : List Char) : tokens E.isWhite s = splitWhitespace E s := by
  unfold tokens splitWhitespace
  rw [tokensAux_eq]
  simp only [List.reverse_nil, List.nil_append]
  rw [headD_cons_tail _ (splitOnP_ne_nil _ s)]

theorem foldAscii?_eq (w : List Char) :
    foldAscii? w = if w.all isAscii then some (w.map asciiLower) else none := rfl

theorem all_ascii {w : List Char} : w.all isAscii = true ↔ ∀ c ∈ w, c.toNat < 128 := by
  simp [isAscii]

theorem foldAscii?_some {w k : List Char} (h : foldAscii? w = some k) :
    (∀ c ∈ w, c.toNat < 128) ∧ k = w.map asciiLower := by
  rw [foldAscii?_eq] at h
  split at h <;> cases h
  exact ⟨all_ascii.mp ‹_›, rfl⟩

theorem foldAscii?_of_ascii {w : List Char} (h : ∀ c ∈ w, c.toNat < 128) : foldAscii? w = some (w.map asciiLower) := by
  rw [foldAscii?_eq, if_pos (all_ascii.mpr h)]

theorem toLowercase_ascii {E : Env} (hE : E.AsciiOk) {w : List Char} (h : ∀ c ∈ w, c.toNat < 128) :
    toLowercase E w = w.map asciiLower := by
  unfold toLowercase
  induction w with
  | nil => rfl
  | cons c w ih =>
    simp only [List.flatMap_cons, List.map_cons, hE.lower c (h c (List.mem_cons_self ..))]
    rw [ih (fun x hx => h x (List.mem_cons_of_mem _ hx))]
    rfl

/-- an ASCII word lowercases to its case folding -/
theorem toLowercase_fold {E : Env} (hE : E.AsciiOk) {w k : List Char} (h : foldAscii? w = some k) :
    toLowercase E w = k := by
  obtain ⟨ha, hk⟩ := foldAscii?_some h
  rw [hk, toLowercase_ascii hE ha]

/-- ASCII chars whose lowercase form is a letter are not whitespace (kernel enumeration) -/
theorem letter_not_white_aux : ∀ n, n < 128 →
    97 ≤ (asciiLower (Char.ofNat n)).toNat → (asciiLower (Char.ofNat n)).toNat ≤ 122 →
    ((Char.ofNat n).toNat == 32 || (9 ≤ (Char.ofNat n).toNat && (Char.ofNat n).toNat ≤ 13)) = false := by
  decide +kernel

/-- a non-empty word of lower-case letters -/
def lettersOnly (k : List Char) : Prop := k ≠ [] ∧ ∀ d ∈ k, 97 ≤ d.toNat ∧ d.toNat ≤ 122

/-- a spelling of an all-letters word contains no whitespace -/
theorem fold_not_white {E : Env} (hE : E.AsciiOk) {w k : List Char} (h : foldAscii? w = some k)
    (hk : lettersOnly k) : ∀ c ∈ w, E.isWhite c = false := by
  obtain ⟨ha, hk'⟩ := foldAscii?_some h
  intro c hc
  have hca := ha c hc
  have hd := hk.2 (asciiLower c) (by rw [hk']; exact List.mem_map_of_mem hc)
  have := letter_not_white_aux c.toNat hca
  rw [← char_eq_ofNat] at this
  rw [hE.white c hca]
  exact this hd.1 hd.2

theorem fold_ne_nil {w k : List Char} (h : foldAscii? w = some k) (hk : k ≠ []) : w ≠ [] := by
  intro hw; subst hw
  simp [foldAscii?] at h
  exact hk h

/-! ### `parse_command` through the spec's `interp` -/

def toSpec : Command → Cmd
  | .breakSet a => .breakSet a
  | .continue_ => .continue_
  | .readMemory a => .readMemory a
  | .readRegisters => .readRegisters
  | .step => .step

/-- `normalize_command` of a token -/
def norm (E : Env) (t : List Char) : List Char := toLowercase E (trim E t)

theorem words_eq : "break".toList = wBreak ∧ "c".toList = wC ∧ "continue".toList = wContinue ∧
    "info".toList = wInfo ∧ "p".toList = wP ∧ "print".toList = wPrint ∧ "s".toList = wS ∧ "step".toList = wStep ∧
    "reg".toList = wReg ∧ "registers".toList = wRegisters := by decide +kernel

theorem table_eq : table =
    [ (wBreak, .addrArg .breakSet), (wC, .noArg .continue_), (wContinue, .noArg .continue_),
      (wInfo, .subWord [wReg, wRegisters] .readRegisters), (wP, .addrArg .readMemory), (wPrint, .addrArg .readMemory),
      (wS, .noArg .step), (wStep, .noArg .step) ] := by
  obtain ⟨h1, h2, h3, h4, h5, h6, h7, h8, h9, h10⟩ := words_eq
  simp only [table, h1, h2, h3, h4, h5, h6, h7, h8, h9, h10]

/-- the match arms of `parse_command` as a function of the normalised first token and the raw second token -/
def chain (E : Env) (first : List Char) (t2 : Option (List Char)) : Option Command :=
  if first = wBreak then
    match t2 with
    | none => none
    | some addrStr =>
      match parseAddress E addrStr with
      | none => none
      | some addr => some (.breakSet addr)
  else if first = wC ∨ first = wContinue then some .continue_
  else if first = wInfo then
    match normalizeCommand E t2 with
    | none => none
    | some next => if next = wReg ∨ next = wRegisters then some .readRegisters else none
  else if first = wP ∨ first = wPrint then
    match t2 with
    | none => none
    | some arg1 =>
      match parseAddress E arg1 with
      | none => none
      | some addr => some (.readMemory addr)
  else if first = wS ∨ first = wStep then some .step
  else none

theorem parseCommand_chain (E : Env) (line : List Char) :
    parseCommand E line =
      match (splitWhitespace E line).head? with
      | none => none
      | some w => chain E (norm E w) (splitWhitespace E line).tail.head? := by
  unfold parseCommand
  simp only
  cases (splitWhitespace E line).head? <;> rfl

theorem ite_or {α : Type} (p q : Prop) [Decidable p] [Decidable q] (a b : α) :
    (if p ∨ q then a else b) = if p then a else if q then a else b := by
  by_cases hp : p <;> by_cases hq : q <;> simp [hp, hq]

/-- the spec's table lookup, read in the order and grouping of `parse_command`'s arms -/
theorem interp_some (k : List Char) (s : Option (List Char)) (a : Option Nat) : interp (some k) s a =
    if k = wBreak then a.map .breakSet
    else if k = wC ∨ k = wContinue then some .continue_
    else if k = wInfo then
      match s with
      | some s => if [wReg, wRegisters].contains s then some .readRegisters else none
      | none => none
    else if k = wP ∨ k = wPrint then a.map .readMemory
    else if k = wS ∨ k = wStep then some .step else none := by
  simp only [interp, table_eq, lookup, ← ite_or]
  by_cases h1 : k = wBreak; · simp only [if_pos h1]
  by_cases h2 : k = wC ∨ k = wContinue; · simp only [if_neg h1, if_pos h2]
  by_cases h3 : k = wInfo; · simp only [if_neg h1, if_neg h2, if_pos h3]; rfl
  by_cases h4 : k = wP ∨ k = wPrint; · simp only [if_neg h1, if_neg h2, if_neg h3, if_pos h4]
  by_cases h5 : k = wS ∨ k = wStep
  · simp only [if_neg h1, if_neg h2, if_neg h3, if_neg h4, if_pos h5]
  · simp only [if_neg h1, if_neg h2, if_neg h3, if_neg h4, if_neg h5]

/-- the model's if-chain is the spec's table lookup -/
theorem chain_interp (E : Env) (first : List Char) (t2 : Option (List Char)) :
    (chain E first t2).map toSpec = interp (some first) (t2.map (norm E)) (t2.bind (parseAddress E)) := by
  have haddr : ∀ (mk : Nat → Command) (mk' : Nat → Cmd), (∀ a, toSpec (mk a) = mk' a) →
      Option.map toSpec (match t2 with
        | none => none
        | some s => match parseAddress E s with
          | none => none
          | some a => some (mk a)) = (t2.bind (parseAddress E)).map mk' := by
    intro mk mk' h
    cases t2 with
    | none => rfl
    | some s => simp only [Option.bind_some]; cases parseAddress E s <;> simp [h]
  rw [interp_some]; unfold chain
  by_cases h1 : first = wBreak; · rw [if_pos h1, if_pos h1]; exact haddr _ _ fun _ => rfl
  rw [if_neg h1, if_neg h1]
  by_cases h2 : first = wC ∨ first = wContinue; · rw [if_pos h2, if_pos h2]; rfl
  rw [if_neg h2, if_neg h2]
  by_cases h3 : first = wInfo
  · rw [if_pos h3, if_pos h3]
    cases t2 with
    | none => rfl
    | some s =>
      show Option.map toSpec (if norm E s = wReg ∨ norm E s = wRegisters then _ else _) = _
      by_cases hr : norm E s = wReg ∨ norm E s = wRegisters <;> simp [hr, toSpec]
  rw [if_neg h3, if_neg h3]
  by_cases h4 : first = wP ∨ first = wPrint; · rw [if_pos h4, if_pos h4]; exact haddr _ _ fun _ => rfl
  rw [if_neg h4, if_neg h4]
  by_cases h5 : first = wS ∨ first = wStep
  · rw [if_pos h5, if_pos h5]; rfl
  · rw [if_neg h5, if_neg h5]; rfl

/-- `parse_command` = the spec's `interp` of the normalised first and second token and the parsed second token -/
theorem parseCommand_factor (E : Env) (line : List Char) :
    (parseCommand E line).map toSpec =
      interp ((splitWhitespace E line).head?.map (norm E)) ((splitWhitespace E line).tail.head?.map (norm E))
        ((splitWhitespace E line).tail.head?.bind (parseAddress E)) := by
  rw [parseCommand_chain]
  cases (splitWhitespace E line).head? with
  | none => simp [interp]
  | some w => simp only [Option.map_some]; exact chain_interp E _ _

/-! ### `parse_command` is allowed by the spec -/

theorem norm_token (E : Env) (t : List Char) (h : ∀ c ∈ t, E.isWhite c = false) : norm E t = toLowercase E t := by
  unfold norm; rw [trim_id E t h]

theorem parseAddress_token (E : Env) (t : List Char) (h : ∀ c ∈ t, E.isWhite c = false) :
    parseAddress E t = address? t := by
  rw [parseAddress_eq, trim_id E t h]

/-- recognising more first/second words keeps every recognised command -/
theorem interp_mono {fs fm ss sm : Option (List Char)} {a : Option Nat} {c : Cmd}
    (h1 : ∀ k, fs = some k → fm = some k) (h2 : ∀ k, ss = some k → sm = some k)
    (h : interp fs ss a = some c) : interp fm sm a = some c := by
  cases fs with
  | none => simp [interp] at h
  | some k =>
    rw [h1 k rfl]
    unfold interp at h ⊢
    simp only at h ⊢
    cases hl : lookup k table with
    | none => simp [hl] at h
    | some sh =>
      rw [hl] at h
      cases sh with
      | noArg c' => exact h
      | addrArg mk => exact h
      | subWord subs c' =>
        simp only at h ⊢
        cases ss with
        | none => simp at h
        | some s => rw [h2 s rfl]; exact h

/-- a command that carries an address got it from the parsed second word -/
theorem interp_addr {f s : Option (List Char)} {a : Option Nat} {c : Cmd} {x : Nat}
    (h : interp f s a = some c) (hx : c.addr? = some x) : a = some x := by
  have haddr : ∀ mk : Nat → Cmd, (∀ y, (mk y).addr? = some y) → a.map mk = some c → a = some x := by
    intro mk hmk h
    cases a with
    | none => cases h
    | some y => cases h; rw [hmk] at hx; exact hx
  cases f with
  | none => cases h
  | some k =>
    rw [interp_some] at h
    by_cases h1 : k = wBreak; · rw [if_pos h1] at h; exact haddr _ (fun _ => rfl) h
    rw [if_neg h1] at h
    by_cases h2 : k = wC ∨ k = wContinue; · rw [if_pos h2] at h; cases h; cases hx
    rw [if_neg h2] at h
    by_cases h3 : k = wInfo
    · rw [if_pos h3] at h
      cases s with
      | none => cases h
      | some s' => simp only at h; split at h <;> cases h; cases hx
    rw [if_neg h3] at h
    by_cases h4 : k = wP ∨ k = wPrint; · rw [if_pos h4] at h; exact haddr _ (fun _ => rfl) h
    rw [if_neg h4] at h
    by_cases h5 : k = wS ∨ k = wStep
    · rw [if_pos h5] at h; cases h; cases hx
    · rw [if_neg h5] at h; cases h

/-- **every answer of `parse_command` is one the spec allows**, for every line and every `Env` that is right on ASCII -/
theorem parse_allowed (E : Env) (hE : E.AsciiOk) (line : List Char) :
    allows E.isWhite line ((parseCommand E line).map toSpec) = true := by
  have hmem := sw_mem E line
  rw [parseCommand_factor]
  unfold allows command?
  simp only [tokens_eq]
  generalize splitWhitespace E line = toks at hmem ⊢
  -- the first two words are among the first two tokens, hence free of whitespace
  have hin : ∀ t, toks.head? = some t ∨ toks.tail.head? = some t → t ∈ toks.take 2 := by
    intro t h
    match toks, h with
    | _ :: _, .inl h => cases h; simp
    | _ :: _ :: _, .inr h => cases h; simp
  have hnw1 : ∀ t, toks.head? = some t → ∀ c ∈ t, E.isWhite c = false :=
    fun t ht => (hmem t (List.mem_of_mem_take (hin t (.inl ht)))).2
  have hnw2 : ∀ t, toks.tail.head? = some t → ∀ c ∈ t, E.isWhite c = false :=
    fun t ht => (hmem t (List.mem_of_mem_take (hin t (.inr ht)))).2
  -- the second word, parsed as an address: model = spec
  have ha : toks.tail.head?.bind (parseAddress E) = toks.tail.head?.bind address? := by
    cases h : toks.tail.head? with
    | none => rfl
    | some t => exact parseAddress_token E t (hnw2 t h)
  rw [ha]
  -- folding an ASCII word is what `normalize_command` does to it
  have hfold : ∀ (o : Option (List Char)), (∀ t, o = some t → ∀ c ∈ t, E.isWhite c = false) →
      ∀ k, o.bind foldAscii? = some k → o.map (norm E) = some k := by
    intro o ho k hk
    cases o with
    | none => cases hk
    | some t => exact congrArg some ((norm_token E t (ho t rfl)).trans (toLowercase_fold hE hk))
  have hfoldeq : ∀ (o : Option (List Char)), (∀ t, o = some t → ∀ c ∈ t, E.isWhite c = false) →
      (∀ t, o = some t → t.all isAscii = true) → o.bind foldAscii? = o.map (norm E) := by
    intro o ho hasc
    cases o with
    | none => rfl
    | some t =>
      have hat := all_ascii.mp (hasc t rfl)
      exact (foldAscii?_of_ascii hat).trans
        (congrArg some ((toLowercase_ascii hE hat).symm.trans (norm_token E t (ho t rfl)).symm))
  rw [Bool.and_eq_true]
  constructor
  · cases hs : interp (toks.head?.bind foldAscii?) (toks.tail.head?.bind foldAscii?) (toks.tail.head?.bind address?) with
    | some c => simp only; rw [interp_mono (hfold _ hnw1) (hfold _ hnw2) hs]; simp
    | none =>
      simp only
      by_cases hasc : (toks.take 2).all (fun w => w.all isAscii) = true
      · rw [← hfoldeq _ hnw1 fun t ht => List.all_eq_true.mp hasc t (hin t (.inl ht)),
          ← hfoldeq _ hnw2 fun t ht => List.all_eq_true.mp hasc t (hin t (.inr ht)), hs]
        simp
      · simp [hasc]
  · cases hr : interp (toks.head?.map (norm E)) (toks.tail.head?.map (norm E)) (toks.tail.head?.bind address?) with
    | none => rfl
    | some c =>
      simp only
      cases hx : c.addr? with
      | none => rfl
      | some x => simp only; rw [interp_addr hr hx]; simp

/-! ### lines of the shape `white* WORD sep …` -/

/-- `normalize_command` of a spelling of an all-letters word is that word -/
theorem norm_fold {E : Env} (hE : E.AsciiOk) {w k : List Char} (hw : foldAscii? w = some k) (hk : lettersOnly k) :
    norm E w = k := by
  rw [norm_token E w (fold_not_white hE hw hk), toLowercase_fold hE hw]

/-- a line starting (after whitespace) with a spelling of an all-letters word `k`: `parse_command` takes the
arm of `k`, its second token being the first token of what follows -/
theorem parse_line_word (E : Env) (hE : E.AsciiOk) (pre w rest k : List Char)
    (hpre : ∀ c ∈ pre, E.isWhite c = true) (hw : foldAscii? w = some k) (hk : lettersOnly k) (hrest : Sep E rest) :
    parseCommand E (pre ++ w ++ rest) = chain E k (splitWhitespace E rest).head? := by
  rw [parseCommand_chain, sw_line E pre w rest hpre (fold_ne_nil hw hk.1) (fold_not_white hE hw hk) hrest]
  simp only [List.head?_cons, List.tail_cons]
  rw [norm_fold hE hw hk]

/-- … and if what follows is `white+ token sep`, that token is the second -/
theorem parse_line_word2 (E : Env) (hE : E.AsciiOk) (pre w mid a rest k : List Char)
    (hpre : ∀ c ∈ pre, E.isWhite c = true) (hw : foldAscii? w = some k) (hk : lettersOnly k)
    (hmid : mid ≠ [] ∧ ∀ c ∈ mid, E.isWhite c = true) (ha : a ≠ [] ∧ ∀ c ∈ a, E.isWhite c = false)
    (hrest : Sep E rest) :
    parseCommand E (pre ++ w ++ (mid ++ a ++ rest)) = chain E k (some a) := by
  have hsep : Sep E (mid ++ a ++ rest) := by
    cases mid with
    | nil => exact absurd rfl hmid.1
    | cons c r => exact Or.inr ⟨c, r ++ a ++ rest, rfl, hmid.2 c (List.mem_cons_self ..)⟩
  rw [parse_line_word E hE pre w _ k hpre hw hk hsep, sw_line E mid a rest hmid.2 ha.1 ha.2 hrest]
  rfl

theorem letters_words : lettersOnly wBreak ∧ lettersOnly wC ∧ lettersOnly wContinue ∧ lettersOnly wInfo ∧
    lettersOnly wP ∧ lettersOnly wPrint ∧ lettersOnly wS ∧ lettersOnly wStep ∧ lettersOnly wReg ∧
    lettersOnly wRegisters := by
  unfold lettersOnly; decide

end GbVerif.DebugCmd
