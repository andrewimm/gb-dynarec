import GbVerif.Proofs.PpuFrame
/-!
C15: composition — the 114 ticks of a line, the 144 lines of a frame, the VBlank before it.
-/
namespace GbVerif.PpuCompose
open GbVerif.Ppu GbVerif.PpuBits GbVerif.PpuObj GbVerif.PpuSel GbVerif.PpuLine GbVerif.PpuFrame

/-- hypotheses on the contents held constant over the frame -/
structure Contents (r : Ppu.Regs) (vram oam : Array Nat) : Prop where
  regs : RegsOk r
  vsize : vram.size = 8192
  osize : oam.size = 160
  vbytes : IsBytes vram
  obytes : IsBytes oam

/-- the machine right after mode 2 of line `ly` was entered -/
structure LineStart (r : Ppu.Regs) (vram oam : Array Nat) (ly : Nat) (s : State) : Prop where
  cfg : s.cfg = Cfg.ofRegs r
  mode : s.mode = .m2
  dots : s.dots = 0
  line : s.line = ly
  wsize : s.writing.size = 23040
  vsize : s.visible.size = 23040
  ocache : findCurrentLineSprites (Cfg.ofRegs r) vram oam ly = .ok s.objCache
  opix : s.objPix = 8

/-- … and 113 ticks later, one tick before the end of its HBlank -/
structure LineEnd (r : Ppu.Regs) (vram oam : Array Nat) (ly : Nat) (s0 s : State) : Prop where
  cfg : s.cfg = Cfg.ofRegs r
  mode : s.mode = .m0
  dots : s.dots = 184
  line : s.line = ly
  wsize : s.writing.size = 23040
  vis : s.visible = s0.visible
  done : ∀ x, x < 160 → mem s.writing (ly * 160 + x) = FrameSpec.pixel (toSpec r) (mem vram) (mem oam) x ly
  other : ∀ k, (k < ly * 160 ∨ ly * 160 + 160 ≤ k) → mem s.writing k = mem s0.writing k

theorem line_ticks {r : Ppu.Regs} {vram oam : Array Nat} (hC : Contents r vram oam) {ly : Nat} (hly : ly < 144)
    {s : State} (h : LineStart r vram oam ly s) :
    ∃ s', runTicks vram oam 113 s = .ok s' ∧ LineEnd r vram oam ly s s' := by
  -- mode 2: 19 idle ticks
  have H1 := runTicks_idle vram oam 19 s (fun k hk => Or.inl ⟨h.mode, by rw [h.dots]; omega⟩)
  rw [h.dots] at H1
  -- the set-up tick
  let s0 : State := { s with dots := 0, mode := .m3 }
  have H2 : tick { s with dots := 0 + 4 * 19 } vram oam = enterMode3 s0 vram := tick_m2_last vram oam _ h.mode (by show 0 + 4 * 19 + 4 ≥ 80; decide)
  obtain ⟨s3, H3, inv3, pipe3⟩ := enterMode3_inv vram oam r hC.vsize hC.vbytes ly s0 h.cfg h.line h.wsize h.opix
  -- the object cache of the line
  have hco : CacheOk r vram oam ly s0.objCache := by
    obtain ⟨cache, c1, c2, c3⟩ := findSprites_spec r hC.vsize hC.osize hC.vbytes hC.obytes ly
    rw [h.ocache] at c1
    cases c1
    exact ⟨c2, c3⟩
  -- forty drawing ticks
  obtain ⟨s4, H4, inv4⟩ := drawTicks_inv vram oam r hC.vsize hC.vbytes ly hly s0 hco rfl 40 0 s3 rfl inv3
    (fun _ => ⟨_, pipe3⟩)
  have hm4 : s4.mode = .m3 := inv4.mode
  have hd4 : s4.dots = 160 := inv4.dots
  -- six idle ticks, the switch to mode 0, 46 idle ticks
  have H5 := runTicks_idle vram oam 6 s4 (fun k hk => Or.inr (Or.inl ⟨hm4, by rw [hd4]; omega, by rw [hd4]; omega⟩))
  let s5 : State := { s4 with dots := s4.dots + 4 * 6 + 4 - 188, mode := .m0 }
  have H6 : tick { s4 with dots := s4.dots + 4 * 6 } vram oam = .ok s5 :=
    tick_m3_last vram oam _ hm4 (by show s4.dots + 4 * 6 + 4 ≥ 188; rw [hd4]; decide)
  have hs5d : s5.dots = 0 := by show s4.dots + 4 * 6 + 4 - 188 = 0; rw [hd4]
  have H7 := runTicks_idle vram oam 46 s5 (fun k hk => Or.inr (Or.inr (Or.inl ⟨rfl, by rw [hs5d]; omega⟩)))
  refine ⟨{ s5 with dots := s5.dots + 4 * 46 }, ?_, inv4.cfg, rfl, by show s5.dots + 4 * 46 = 184; rw [hs5d], inv4.line, inv4.wsize, inv4.vis, inv4.done,
    inv4.other⟩
  rw [show (113 : Nat) = 19 + (1 + (40 + (6 + (1 + 46)))) from rfl, runTicks_then vram oam _ _ _ _ H1,
    runTicks_then vram oam 1 _ _ s3 (by rw [runTicks_one, H2, H3]), runTicks_then vram oam _ _ _ _ H4,
    runTicks_then vram oam _ _ _ _ H5, runTicks_then vram oam 1 _ _ s5 (by rw [runTicks_one, H6]), H7]

/-- a drawn line joins the lines drawn before it -/
theorem LineEnd.lines {r : Ppu.Regs} {vram oam : Array Nat} {ly : Nat} {s s' : State} (E : LineEnd r vram oam ly s s')
    (h : ∀ l x, l < ly → x < 160 → mem s.writing (l * 160 + x) = FrameSpec.pixel (toSpec r) (mem vram) (mem oam) x l) :
    ∀ l x, l < ly + 1 → x < 160 → mem s'.writing (l * 160 + x) = FrameSpec.pixel (toSpec r) (mem vram) (mem oam) x l := by
  intro l x hl hx
  by_cases hll : l = ly
  · subst hll; exact E.done x hx
  · rw [E.other (l * 160 + x) (Or.inl (by omega))]; exact h l x (by omega) hx

/-- start of line `ly` with the lines above it already drawn; `v0` is the visible buffer -/
structure FrameInv (r : Ppu.Regs) (vram oam : Array Nat) (ly : Nat) (v0 : Array Nat) (s : State) : Prop where
  start : LineStart r vram oam ly s
  vis : s.visible = v0
  done : ∀ l x, l < ly → x < 160 →
    mem s.writing (l * 160 + x) = FrameSpec.pixel (toSpec r) (mem vram) (mem oam) x l

theorem line_step {r : Ppu.Regs} {vram oam : Array Nat} (hC : Contents r vram oam) {ly : Nat} (hly : ly < 143)
    {v0 : Array Nat} {s : State} (h : FrameInv r vram oam ly v0 s) :
    ∃ s', runTicks vram oam 114 s = .ok s' ∧ FrameInv r vram oam (ly + 1) v0 s' := by
  obtain ⟨s1, H1, E⟩ := line_ticks hC (Nat.lt_succ_of_lt hly) h.start
  obtain ⟨cache, c1, _, _⟩ := findSprites_spec r hC.vsize hC.osize hC.vbytes hC.obytes (ly + 1)
  have hf : findCurrentLineSprites s1.cfg vram oam (s1.line + 1) = .ok cache := by rw [E.cfg, E.line]; exact c1
  have H2 := tick_m0_next vram oam s1 E.mode (by rw [E.dots]; decide) (by rw [E.line]; exact hly) cache hf
  refine ⟨_, by rw [show (114 : Nat) = 113 + 1 from rfl, runTicks_then vram oam _ _ _ _ H1, runTicks_one, H2], ?_, ?_, ?_⟩
  · exact ⟨E.cfg, rfl, by show s1.dots + 4 - 188 = 0; rw [E.dots], by show s1.line + 1 = ly + 1; rw [E.line],
      E.wsize, by show s1.visible.size = 23040; rw [E.vis]; exact h.start.vsize, c1, rfl⟩
  · show s1.visible = v0; rw [E.vis]; exact h.vis
  · exact E.lines h.done

theorem lines_run {r : Ppu.Regs} {vram oam : Array Nat} (hC : Contents r vram oam) {v0 : Array Nat} :
    ∀ (n ly : Nat) (s : State), ly + n = 143 → FrameInv r vram oam ly v0 s →
      ∃ s', runTicks vram oam (114 * n) s = .ok s' ∧ FrameInv r vram oam 143 v0 s' := by
  intro n
  induction n with
  | zero => intro ly s hn h; have : ly = 143 := by omega
            subst this; exact ⟨s, rfl, h⟩
  | succ n ih =>
    intro ly s hn h
    obtain ⟨s1, H1, h1⟩ := line_step hC (by omega) h
    obtain ⟨s', H2, h2⟩ := ih (ly + 1) s1 (by omega) h1
    refine ⟨s', ?_, h2⟩
    rw [show 114 * (n + 1) = 114 + 114 * n by omega, runTicks_then vram oam _ _ _ _ H1]; exact H2

/-- the machine at VBlank entry (or at power-on) -/
structure VBlankEntry (s : State) : Prop where
  mode : s.mode = .m1
  line : s.line = 144
  dots : s.dots = 0
  wsize : s.writing.size = 23040
  vsize : s.visible.size = 23040

/-- the whole visible buffer equals the reference frame -/
def Presents (r : Ppu.Regs) (vram oam : Array Nat) (s : State) : Prop :=
  s.visible.size = 23040 ∧ ∀ l x, l < 144 → x < 160 →
    mem s.visible (l * 160 + x) = FrameSpec.pixel (toSpec r) (mem vram) (mem oam) x l

theorem frame_from_line0 {r : Ppu.Regs} {vram oam : Array Nat} (hC : Contents r vram oam) {v0 : Array Nat} {s : State}
    (h : FrameInv r vram oam 0 v0 s) :
    ∃ s', runTicks vram oam (144 * 114) s = .ok s' ∧ VBlankEntry s' ∧ s'.cfg = Cfg.ofRegs r ∧ Presents r vram oam s' := by
  obtain ⟨s1, H1, h1⟩ := lines_run hC 143 0 s rfl h
  obtain ⟨s2, H2, E⟩ := line_ticks hC (by decide) h1.start
  have H3 := tick_m0_vblank vram oam s2 E.mode (by rw [E.dots]; decide) (by rw [E.line]; decide)
  refine ⟨{ s2 with dots := s2.dots + 4 - 188, line := 144, mode := .m1, visible := s2.writing, writing := s2.visible },
    ?_, ?_, E.cfg, ?_, ?_⟩
  · rw [show 144 * 114 = 114 * 143 + (113 + 1) from rfl, runTicks_then vram oam _ _ _ _ H1,
      runTicks_then vram oam _ _ _ _ H2, runTicks_one, H3]
  · exact ⟨rfl, rfl, by show s2.dots + 4 - 188 = 0; rw [E.dots],
      by show s2.visible.size = 23040; rw [E.vis]; exact h1.start.vsize, E.wsize⟩
  · exact E.wsize
  · exact E.lines h1.done

theorem succ_divmod114 (a : Nat) :
    (a % 114 < 113 → (a + 1) / 114 = a / 114 ∧ (a + 1) % 114 = a % 114 + 1) ∧
    (¬ a % 114 < 113 → (a + 1) / 114 = a / 114 + 1 ∧ (a + 1) % 114 = 0) := by omega

/-- one tick inside the VBlank; `a` = ticks since VBlank entry (114 ticks to a line) -/
theorem vb_tick (vram oam : Array Nat) (a : Nat) (s : State) (ha : a < 1139) (hm : s.mode = .m1)
    (hl : s.line = 144 + a / 114) (hd : s.dots = 4 * (a % 114)) :
    tick s vram oam = .ok { s with line := 144 + (a + 1) / 114, dots := 4 * ((a + 1) % 114) } := by
  by_cases hr : a % 114 < 113
  · obtain ⟨e1, e2⟩ := (succ_divmod114 a).1 hr
    rw [tick_idle vram oam s (Or.inr (Or.inr (Or.inr ⟨hm, by omega⟩))), e1, e2, ← hl, Nat.mul_succ, ← hd]
  · obtain ⟨e1, e2⟩ := (succ_divmod114 a).2 hr
    have ⟨h1, h2, h3⟩ : s.dots + 4 ≥ 456 ∧ s.line < 153 ∧ s.dots + 4 - 456 = 4 * 0 := by omega
    rw [tick_m1_wrap vram oam s hm h1 h2, e1, e2, ← Nat.add_assoc, ← hl, h3]

theorem vb_run (vram oam : Array Nat) : ∀ (n a : Nat) (s : State), a + n ≤ 1139 → s.mode = .m1 →
    s.line = 144 + a / 114 → s.dots = 4 * (a % 114) →
    runTicks vram oam n s = .ok { s with line := 144 + (a + n) / 114, dots := 4 * ((a + n) % 114) } := by
  intro n
  induction n with
  | zero => intro a s _ _ hl hd; rw [Nat.add_zero, ← hl, ← hd]; rfl
  | succ n ih =>
    intro a s ha hm hl hd
    have ⟨h1, h2⟩ : a < 1139 ∧ a + 1 + n ≤ 1139 := by omega
    rw [runTicks, vb_tick vram oam a s h1 hm hl hd, ok_bind,
      ih (a + 1) { s with line := 144 + (a + 1) / 114, dots := 4 * ((a + 1) % 114) } h2 hm rfl rfl,
      Nat.add_right_comm a 1 n]
    rfl

/-- from any point of the VBlank to the next VBlank entry: the frame presented is the reference -/
theorem vblank_then_frame {r : Ppu.Regs} {vram oam : Array Nat} (hC : Contents r vram oam) (a : Nat) (ha : a ≤ 1139)
    (s : State) (hm : s.mode = .m1) (hl : s.line = 144 + a / 114) (hd : s.dots = 4 * (a % 114))
    (hc : s.cfg = Cfg.ofRegs r) (hw : s.writing.size = 23040) (hv : s.visible.size = 23040) :
    ∃ s', runTicks vram oam (1140 - a + 144 * 114) s = .ok s' ∧ VBlankEntry s' ∧ s'.cfg = Cfg.ofRegs r ∧
      Presents r vram oam s' := by
  have e1 : a + (1139 - a) = 1139 := Nat.add_sub_cancel' ha
  have H1 := vb_run vram oam (1139 - a) a s (Nat.le_of_eq e1) hm hl hd
  rw [e1] at H1
  obtain ⟨cache, c1, _, _⟩ := findSprites_spec r hC.vsize hC.osize hC.vbytes hC.obytes 0
  let sC : State := { s with line := 144 + 1139 / 114, dots := 4 * (1139 % 114) }
  have H2 := tick_m1_last vram oam sC hm (by show 4 * (1139 % 114) + 4 ≥ 456; decide) (by show ¬ (144 + 1139 / 114 < 153); decide) cache (by show findCurrentLineSprites s.cfg vram oam 0 = _; rw [hc]; exact c1)
  have hF : FrameInv r vram oam 0 s.visible
      { sC with dots := sC.dots + 4 - 456, line := 0, mode := .m2, objCache := cache, objPix := 8 } :=
    ⟨⟨hc, rfl, by show 4 * (1139 % 114) + 4 - 456 = 0; decide, rfl, hw, hv, c1, rfl⟩, rfl, fun l x hl _ => absurd hl (Nat.not_lt_zero l)⟩
  obtain ⟨s', H3, r1, r2, r3⟩ := frame_from_line0 hC hF
  refine ⟨s', ?_, r1, r2, r3⟩
  rw [show 1140 - a + 144 * 114 = (1139 - a) + (1 + 144 * 114) by omega, runTicks_then vram oam _ _ _ _ H1,
    runTicks_then vram oam 1 _ _ _ (by rw [runTicks_one, H2])]
  exact H3

/-! ### calling the setters again gives the same configuration as a fresh set-up -/

theorem getElem_eq_mem (a : Array Nat) (i : Nat) (h : i < a.size) : a[i] = mem a i := by
  simp [mem, Array.getD, h]

theorem ext_mem (X Y : Array Nat) (hs : X.size = Y.size) (h : ∀ j, mem X j = mem Y j) : X = Y :=
  Array.ext hs fun i h1 h2 => by rw [getElem_eq_mem _ _ h1, getElem_eq_mem _ _ h2, h i]

theorem applyRegs_ofRegs (r0 r : Ppu.Regs) : (Cfg.ofRegs r0).applyRegs r = Cfg.ofRegs r := by
  rw [applyRegs_eq, objPalettes_eq r0]
  have hx : chain8 (chain8 (Array.replicate 32 0) r0) r = (Cfg.ofRegs r).objectPalettes := by
    rw [objPalettes_eq r]
    refine ext_mem _ _ (by rw [size_chain8, size_chain8, size_chain8]) fun j => ?_
    rw [mem_chain8 _ _ _ (by rw [size_chain8]; decide), mem_chain8 _ _ _ (by decide), mem_chain8 _ _ _ (by decide)]
    split <;> rfl
  rw [hx]

theorem powerOn_entry (c : Cfg) : VBlankEntry (powerOn c) := ⟨rfl, rfl, rfl, by simp [powerOn], by simp [powerOn]⟩

theorem first_frame {r : Ppu.Regs} {vram oam : Array Nat} (hC : Contents r vram oam) :
    ∃ s', renderFirst r vram oam = .ok s' ∧ VBlankEntry s' ∧ s'.cfg = Cfg.ofRegs r ∧ Presents r vram oam s' := by
  have hE := powerOn_entry (Cfg.ofRegs r)
  exact vblank_then_frame hC 0 (Nat.zero_le _) (powerOn (Cfg.ofRegs r)) hE.mode hE.line hE.dots rfl hE.wsize hE.vsize

/-- any later frame on the same machine: `k` ticks of the VBlank with the old memories and registers,
then the setters are called and VRAM/OAM replaced -/
theorem next_frame {r : Ppu.Regs} (vramOld oamOld : Array Nat) {vram oam : Array Nat} (hC : Contents r vram oam) {s : State}
    (hE : VBlankEntry s) {r0 : Ppu.Regs} (hc : s.cfg = Cfg.ofRegs r0) (k : Nat) (hk : k ≤ 1139) :
    ∃ s', renderNext s r vramOld oamOld vram oam k = .ok s' ∧ VBlankEntry s' ∧ s'.cfg = Cfg.ofRegs r ∧
      Presents r vram oam s' := by
  have H1 := vb_run vramOld oamOld k 0 s (by rw [Nat.zero_add]; exact hk) hE.mode (by rw [hE.line]) (by rw [hE.dots])
  simp only [Nat.zero_add] at H1
  unfold renderNext
  simp only [H1, bind, Except.bind]
  exact vblank_then_frame hC k hk _ hE.mode rfl rfl
    (by show s.cfg.applyRegs r = _; rw [hc, applyRegs_ofRegs]) hE.wsize hE.vsize

/-- `Presents` as an equation with the reference frame -/
theorem presents_eq {r : Ppu.Regs} {vram oam : Array Nat} {s : State} (h : Presents r vram oam s) :
    s.visible = FrameSpec.frame (toSpec r) (mem vram) (mem oam) := by
  apply Array.ext
  · rw [h.1]; simp [FrameSpec.frame]
  · intro i h1 h2
    rw [getElem_eq_mem _ _ h1]
    simp only [FrameSpec.frame, Array.getElem_ofFn]
    have hi : i < 23040 := by rw [← h.1]; exact h1
    have := h.2 (i / 160) (i % 160) (by omega) (by omega)
    rw [show i / 160 * 160 + i % 160 = i by omega] at this
    exact this

end GbVerif.PpuCompose
