import GbVerif.Proofs.X86SimShift
import GbVerif.Proofs.X86SimBit
/-
C01, the data side, CB page: SWAP r for the seven registers.  Template: `rol r8, 4 ; or r8, r8 ; <flag conversion keeping
0x7f of F, taking Z> ; and al, 0x8f`.
-/
namespace GbVerif.X86
open GbVerif.JitCycles GbVerif.Interp
variable {β : Type}

theorem hostR8_lt (r : Reg8) : r8reg (hostR8 r) < 16 := by cases r <;> decide

/-- writing back the byte a location holds changes no register -/
theorem get_set8_same (s : St β) (l : R8) (hl : r8reg l < s.r.size) (j : Nat) : get (set8 s l (get8 s l)) j = get s j := by
  by_cases hj : r8reg l = j
  · subst hj
    have := (get s (r8reg l)).isLt
    cases l <;> simp only [set8, get8, r8reg] at this hl ⊢ <;> rw [get_set_eq _ _ _ hl] <;> apply BitVec.eq_of_toNat_eq <;>
      rw [BitVec.toNat_ofNat] <;> omega
  · exact get_set8_ne _ _ _ _ hj

/-- rewriting a guest register's host location with the value it holds -/
theorem sim_set8_same {g : Regs} {s : St β} (h : Sim g s) (r : Reg8) : Sim g (set8 s (hostR8 r) (getReg g r)) := by
  rw [← get8_sim h r]
  exact sim_scratch h (fun j _ => get_set8_same s _ (h.size ▸ hostR8_lt r) j) ((size_set8 _ _ _).trans h.size)

/-- `or r8, r8` on the host location of a guest register: nothing moves, ZF says whether the register is zero -/
theorem step_orself_sim (B : BusOps β) (r : Reg8) {g : Regs} {st s1 : St β} {len : Nat}
    (hs : Sim g st) (h : step B st (.alu8 .or (hostR8 r) (hostR8 r)) len = .ok s1) :
    Sim g s1 ∧ Untouched st s1 ∧ s1.fl.zf = (getReg g r == 0) := by
  have hu := untouched_step B h rfl (fun e => hostR8_ne14 r (Option.some.inj e))
  have e1 : step B st (.alu8 .or (hostR8 r) (hostR8 r)) len =
      .ok { (set8 ({ st with pc := st.pc + len } : St β) (hostR8 r) (aluOp .or 8 (get8 st (hostR8 r)) (get8 st (hostR8 r)) st.fl).1) with
            fl := (aluOp .or 8 (get8 st (hostR8 r)) (get8 st (hostR8 r)) st.fl).2 } := rfl
  rw [e1, get8_sim hs r] at h
  have hv : (aluOp .or 8 (getReg g r) (getReg g r) st.fl).1 = getReg g r := Nat.or_self _
  have hz : (aluOp .or 8 (getReg g r) (getReg g r) st.fl).2.zf = (getReg g r == 0) := by
    show (getReg g r ||| getReg g r == 0) = (getReg g r == 0); rw [Nat.or_self]
  cases Except.ok.inj h
  refine ⟨?_, hu, hz⟩
  rw [hv]; exact sim_fl (sim_set8_same (sim_pc hs (st.pc + len)) r) _

theorem rol4_swap (v : Nat) (hv : v < 256) (fl : Flags) : (shOp .rol 8 v 4 fl).1 = swapN v ∧ swapN v < 256 := by
  have e1 : (shOp .rol 8 v 4 fl).1 = (v * 2 ^ (4 % 8) % 2 ^ 8) ||| (v / 2 ^ (8 - 4 % 8)) := rfl
  have := Enum.forall_lt_of_allRange (fun v => ((v * 2 ^ (4 % 8) % 2 ^ 8) ||| (v / 2 ^ (8 - 4 % 8))) == swapN v && decide (swapN v < 256)) 8 (by decide +kernel) v hv
  simp only [Bool.and_eq_true, beq_iff_eq, decide_eq_true_eq] at this
  exact ⟨by rw [e1, this.1], this.2⟩

theorem fSwap_eq (f : Nat) (z : Bool) :
    bitop .and ((f &&& 0x7f) ||| (if z then 0x80 else 0)) 0x8f = ((f &&& 0x0f) ||| (if z then 0x80 else 0)) := by
  show (_ ||| _) &&& 0x8f = _
  rw [and_or_mask]; cases z <;> rfl

def opcodeSwap (r : Reg8) : Nat := 0x30 + r8code r

/-- `rol r8, 4 ; or r8, r8 ; <flag conversion keeping 0x7f of F, taking Z> ; and al, 0x8f` at the offsets `o0`, `o1`, `o 1 … o 10` -/
def swapBodyAt (r : Reg8) (o0 o1 : Nat) (o : Nat → Nat) : List (Nat × Instr) :=
  ((o0, Instr.sh8 ShOp.rol (hostR8 r) 4) :: (o1, Instr.alu8 AluOp.or (hostR8 r) (hostR8 r)) :: pipeAt o 0x7f 0x80) ++
    [(o 10, Instr.alu8i AluOp.and (R8.lo 0) 0x8f)]

theorem table_swap (r : Reg8) (b2 : Nat) :
    decodeCode (Gen.emitCb (opcodeSwap r)) = some (swapBodyAt r 0 3 (aluOff' 5) ++ [(36, addIp 2), (40, addCy 2)]) ∧
    bytesOf (Gen.emitCb (opcodeSwap r)) = 44 ∧ Gen.decode 0xcb (opcodeSwap r) b2 = (.Swap r, 2, 8) := by
  rw [decode_cb]
  revert r
  exact forall_reg8 (by decide +kernel)

theorem swap_body_at (B : BusOps β) (r : Reg8) (o0 o1 : Nat) (o : Nat → Nat) (e : Nat) (g : Regs) (st s3 : St β) (hs : Sim g st)
    (hex : execList B e (swapBodyAt r o0 o1 o) st = .ok s3) :
    Sim (testZero (applyMask (setReg g r (swapN (getReg g r))) 0xf0) (swapN (getReg g r))) s3 ∧ Untouched st s3 := by
  obtain ⟨sa, ha, hex⟩ := execList_cons B _ _ _
    ((o1, Instr.alu8 AluOp.or (hostR8 r) (hostR8 r)) :: (pipeAt o 0x7f 0x80 ++ [(o 10, Instr.alu8i AluOp.and (R8.lo 0) 0x8f)])) _ _ hex
  obtain ⟨sb, hb, hex⟩ := execList_cons B _ _ _ _ _ _ hex
  obtain ⟨hv, hlt⟩ := rol4_swap (getReg g r) (getReg_lt g r) st.fl
  obtain ⟨hsa, hua, _⟩ := step_sh8_sim B .rol 4 (by decide) r hs hv hlt ha
  obtain ⟨hs1, hub, hz⟩ := step_orself_sim B r hsa hb
  rw [getReg_setReg_self g r _ hlt] at hz
  obtain ⟨q1, q2⟩ := pipe_al_sim B .and (Or.inl rfl) 0x7f 0x80 0x8f (by decide) (by decide) (by decide) o e hs1
    ((sameButAf_applyMask _ _).trans (sameButAf_testZero _ _)) (swapFlags_pack _ (swapN (getReg g r)))
    (by rw [(conv_take _).2.2.1, hz]; exact fSwap_eq _ _) hex
  exact ⟨q1, (hua.trans hub).trans q2⟩

/-- **SWAP r** (7 registers): all states -/
theorem sim_swap (r : Reg8) (b2 : Nat) : SimulatesCb (opcodeSwap r) b2 :=
  SimulatesCb.intro (table_swap r b2) rfl (by decide) (by decide) rfl fun B g _ _ hs hex =>
    ⟨_, fun _ => rfl, swap_body_at B r 0 3 (aluOff' 5) 36 g _ _ hs hex⟩

end GbVerif.X86
