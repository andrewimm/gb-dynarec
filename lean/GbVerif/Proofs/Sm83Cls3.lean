import GbVerif.Proofs.Sm83Rel
import GbVerif.Proofs.Sm83Misc
/-!
Opcode classes, part 3 (control flow): JP / JP cc / JP HL / JR / JR cc / CALL / CALL cc / RET / RET cc / RETI / RST —
program counter, stack bytes and stack pointer, taken and not-taken cycle counts.
-/
namespace GbVerif.C05
open GbVerif.Interp GbVerif.Sm83Bits
open GbVerif.SM83 (Cpu mkF flagZ flagN flagH flagC Outcome)

variable {β : Type} {B : BusOps β} {len clk : Nat}

/-- the SM83 condition index `cc[y]` of the interpreter's condition (`JumpCondition` in gb-dynarec) -/
def idxC : Cond → Nat
  | .NonZero => 0 | .Zero => 1 | .NoCarry => 2 | .Carry => 3 | .Always => 4

theorem cond_conc {c : Cpu} (hc : CWF c) (k : Nat) (cnd : Cond) (h : cnd ≠ .Always) :
    condHolds (conc c k).af cnd = SM83.cond c (idxC cnd) := by
  have hf := hc.hf
  have e1 : (c.a * 256 + c.f) / 128 % 2 = c.f / 128 % 2 := by omega
  have e2 : (c.a * 256 + c.f) / 16 % 2 = c.f / 16 % 2 := by omega
  have z : c.f / 128 % 2 = 0 ∨ c.f / 128 % 2 = 1 := by omega
  have y : c.f / 16 % 2 = 0 ∨ c.f / 16 % 2 = 1 := by omega
  cases cnd
  · exact absurd rfl h
  all_goals simp only [condHolds, idxC, SM83.cond, conc_af, and_80_ne, and_80_eq, and_10_ne, and_10_eq, flagZ, flagC, e1, e2]
  · rcases z with z | z <;> simp [z]
  · rcases y with y | y <;> simp [y]

/-- the relative-jump target of the interpreter (u32 arithmetic, then the 16-bit PC mask) -/
theorem jr_target (pc off : Nat) (hpc : pc < 65536) (hoff : off < 256) :
    (if off &&& 0x80 == 0 then u32 (u32 (pc + 2) + off) else u32 (u32 (pc + 2) + 4294967296 - u16 ((off ^^^ 0xff) + 1))) % 65536 =
      (pc + 2 + (if off < 128 then off else off + 65280)) % 65536 := by
  rw [and_80_eq, xor_ff _ hoff]
  simp only [u32, u16]
  by_cases h : off < 128
  · have h1 : off / 128 % 2 = 0 := by omega
    simp only [h1, decide_true, if_true, h]; omega
  · have h1 : ¬ (off / 128 % 2 = 0) := by omega
    simp only [h1, decide_false, h, if_false, Bool.false_eq_true]; omega

/-- the return address the interpreter pushes: next instruction, as a 16-bit value -/
theorem ret_addr (pc n : Nat) : u16 (u32 (pc + n)) = (pc + n) % 65536 := by simp only [u16, u32]; omega

theorem u32_mod (x : Nat) : u32 x % 65536 = x % 65536 := by simp only [u32]; omega

theorem op_jp {lo hi : Nat} (hlo : lo < 256) (hhi : hi < 256) :
    OpRel B (Op.Jump .Always (lo + 256 * hi)) len clk fun c m => .ok ({ c with pc := hi * 256 + lo }, m, clk / 4, .normal) := by
  refine ⟨fun c k m hc => ?_⟩
  have hrun : runOp B (Op.Jump .Always (lo + 256 * hi)) (conc c k) m len =
      .ok ({ conc c k with ip := lo + 256 * hi }, m, STATUS_NORMAL) := rfl
  have ha : hi * 256 + lo < 65536 := by omega
  have e : (lo + 256 * hi) % 65536 = hi * 256 + lo := by omega
  rw [hrun]
  exact rel_goto hc k 0 clk m .normal ha e (Nat.zero_add _)

theorem op_jp_cc (cnd : Cond) (hne : cnd ≠ .Always) {lo hi : Nat} (hlo : lo < 256) (hhi : hi < 256) :
    OpRel B (Op.Jump cnd (lo + 256 * hi)) 3 clk fun c m =>
      if SM83.cond c (idxC cnd) = true then .ok ({ c with pc := hi * 256 + lo }, m, clk / 4 + 1, .normal)
      else .ok (SM83.next c 3, m, clk / 4, .normal) := by
  refine ⟨fun c k m hc => ?_⟩
  have hrun : runOp B (Op.Jump cnd (lo + 256 * hi)) (conc c k) m 3 =
      if cnd == .Always then .ok ({ conc c k with ip := lo + 256 * hi }, m, STATUS_NORMAL)
      else if condHolds (conc c k).af cnd then
        .ok ({ conc c k with ip := lo + 256 * hi, cycles := (conc c k).cycles + 1 }, m, STATUS_NORMAL)
      else .ok ({ conc c k with ip := (conc c k).ip + 3 }, m, STATUS_NORMAL) := rfl
  have hne' : (cnd == Cond.Always) = false := by cases cnd <;> first | rfl | exact absurd rfl hne
  rw [hrun, hne', cond_conc hc k cnd hne, if_neg Bool.false_ne_true]
  have ha : hi * 256 + lo < 65536 := by omega
  have e : (lo + 256 * hi) % 65536 = hi * 256 + lo := by omega
  exact rel_ite _ (rel_goto hc k 1 clk m .normal ha e (Nat.add_comm _ _))
    (rel_goto hc k 0 clk m .normal (Nat.mod_lt _ (by decide)) rfl (Nat.zero_add _))

theorem op_jphl : OpRel B Op.JumpHL len clk fun c m => .ok ({ c with pc := SM83.hl c }, m, clk / 4, .normal) := by
  refine ⟨fun c k m hc => ?_⟩
  have hrun : runOp B Op.JumpHL (conc c k) m len =
      .ok ({ conc c k with ip := getReg16 (conc c k) .HL }, m, STATUS_NORMAL) := rfl
  rw [hrun, getHL_conc hc]
  exact rel_goto hc k 0 clk m .normal (hl_lt hc) (Nat.mod_eq_of_lt (hl_lt hc)) (Nat.zero_add _)

theorem op_jr {e : Nat} (he : e < 256) :
    OpRel B (Op.JumpRelative .Always e) len clk fun c m =>
      .ok ({ c with pc := (c.pc + 2 + (if e < 128 then e else e + 65280)) % 65536 }, m, clk / 4 + 1, .normal) := by
  refine ⟨fun c k m hc => ?_⟩
  have hrun : runOp B (Op.JumpRelative .Always e) (conc c k) m len =
      .ok ({ conc c k with
        ip := (if e &&& 0x80 == 0 then u32 (u32 ((conc c k).ip + 2) + e)
               else u32 (u32 ((conc c k).ip + 2) + 4294967296 - u16 ((e ^^^ 0xff) + 1))),
        cycles := (conc c k).cycles + 1 }, m, STATUS_NORMAL) := rfl
  rw [hrun]
  exact rel_goto hc k 1 clk m .normal (Nat.mod_lt _ (by decide)) (jr_target c.pc e hc.hpc he) (Nat.add_comm _ _)

theorem op_jr_cc (cnd : Cond) (hne : cnd ≠ .Always) {e : Nat} (he : e < 256) :
    OpRel B (Op.JumpRelative cnd e) 2 clk fun c m =>
      if SM83.cond c (idxC cnd) = true then
        .ok ({ c with pc := (c.pc + 2 + (if e < 128 then e else e + 65280)) % 65536 }, m, clk / 4 + 1, .normal)
      else .ok (SM83.next c 2, m, clk / 4, .normal) := by
  refine ⟨fun c k m hc => ?_⟩
  have hrun : runOp B (Op.JumpRelative cnd e) (conc c k) m 2 =
      if condHolds (conc c k).af cnd then
        .ok ({ conc c k with
          ip := (if e &&& 0x80 == 0 then u32 (u32 ((conc c k).ip + 2) + e)
                 else u32 (u32 ((conc c k).ip + 2) + 4294967296 - u16 ((e ^^^ 0xff) + 1))),
          cycles := (conc c k).cycles + 1 }, m, STATUS_NORMAL)
      else .ok ({ conc c k with ip := u32 ((conc c k).ip + 2) }, m, STATUS_NORMAL) := rfl
  rw [hrun, cond_conc hc k cnd hne]
  exact rel_ite _ (rel_goto hc k 1 clk m .normal (Nat.mod_lt _ (by decide)) (jr_target c.pc e hc.hpc he) (Nat.add_comm _ _))
    (rel_goto hc k 0 clk m .normal (Nat.mod_lt _ (by decide)) (u32_mod _) (Nat.zero_add _))

/-- push a return address and jump: stack bytes, SP, PC and cycles against `push16` -/
theorem push_jump (B : BusOps β) {c : Cpu} (hc : CWF c) (k ip0 v addr dk clk cyc : Nat) (m : β) (haddr : addr < 65536)
    (hcyc : dk + clk / 4 = cyc) :
    Rel k (((push B v { conc c k with ip := ip0 } m).bind fun x =>
        (.ok ({ x.1 with ip := addr, cycles := x.1.cycles + dk }, x.2, STATUS_NORMAL) : Except Bus.Panic (Regs × β × Nat))).map
          (finish clk))
      ((SM83.push16 (memOf B) c m v).bind fun x => .ok ({ x.1 with pc := addr }, x.2, cyc, .normal)) := by
  rw [push_eq B { conc c k with ip := ip0 } v m hc.hsp, push16_eq, bind_bind, bind_bind]
  refine rel_bind _ fun m1 _ => ?_
  rw [bind_bind, bind_bind]
  refine rel_bind _ fun m2 _ => ?_
  -- not `rel_goto`: with SP replaced on both sides, matching its statement is far slower to check than this unfolding
  subst hcyc
  refine ⟨cwf_setPC (cwf_setSP hc _ (Nat.mod_lt _ (by decide))) _ haddr, ?_⟩
  simp only [ok_bind, Except.map, finish, conc, and_ffff, Nat.mod_eq_of_lt haddr, Nat.add_assoc, statusOf]

/-- pop a return address and jump -/
theorem pop_jump (B : BusOps β) (hB : ByteBus B) {c : Cpu} (hc : CWF c) (k ip0 dk clk cyc : Nat) (m : β) (out : Outcome)
    (hcyc : dk + clk / 4 = cyc) :
    Rel k (((pop B { conc c k with ip := ip0 } m).bind fun x =>
        (.ok ({ x.2 with ip := x.1, cycles := x.2.cycles + dk }, m, statusOf out) : Except Bus.Panic (Regs × β × Nat))).map
          (finish clk))
      ((SM83.pop16 (memOf B) c m).bind fun x => .ok ({ x.2 with pc := x.1 }, m, cyc, out)) := by
  rw [pop_eq B _ _ hc.hsp, pop16_eq]
  simp only [bind_bind, ok_bind]
  refine rel_bind _ fun lo h1 => rel_bind _ fun hi h2 => ?_
  have hlo := hB _ _ _ h1
  have hhi := hB _ _ _ h2
  have hlt : hi * 256 + lo < 65536 := by omega
  rw [pair_val hi lo hlo]
  exact rel_goto (cwf_setSP hc _ (Nat.mod_lt _ (by decide))) k dk clk m out hlt (Nat.mod_eq_of_lt hlt) hcyc

theorem op_call {lo hi : Nat} (hlo : lo < 256) (hhi : hi < 256) :
    OpRel B (Op.Call .Always (lo + 256 * hi)) len clk fun c m =>
      (SM83.push16 (memOf B) c m ((c.pc + 3) % 65536)).bind fun x =>
        .ok ({ x.1 with pc := hi * 256 + lo }, x.2, 3 + clk / 4, .normal) := by
  refine ⟨fun c k m hc => ?_⟩
  have hrun : runOp B (Op.Call .Always (lo + 256 * hi)) (conc c k) m len =
      (push B (u16 (u32 ((conc c k).ip + 3))) { conc c k with ip := u32 ((conc c k).ip + 3) } m).bind fun x =>
        .ok ({ x.1 with ip := lo + 256 * hi, cycles := x.1.cycles + 3 }, x.2, STATUS_NORMAL) := rfl
  have e : lo + 256 * hi = hi * 256 + lo := by omega
  rw [hrun, conc_ip, e, ret_addr]
  exact push_jump B hc k _ _ _ 3 clk _ m (by omega) rfl

theorem op_call_cc (cnd : Cond) (hne : cnd ≠ .Always) {lo hi : Nat} (hlo : lo < 256) (hhi : hi < 256) :
    OpRel B (Op.Call cnd (lo + 256 * hi)) 3 clk fun c m =>
      if SM83.cond c (idxC cnd) = true then
        (SM83.push16 (memOf B) c m ((c.pc + 3) % 65536)).bind fun x =>
          .ok ({ x.1 with pc := hi * 256 + lo }, x.2, 3 + clk / 4, .normal)
      else .ok (SM83.next c 3, m, clk / 4, .normal) := by
  refine ⟨fun c k m hc => ?_⟩
  have hrun : runOp B (Op.Call cnd (lo + 256 * hi)) (conc c k) m 3 =
      if condHolds (conc c k).af cnd then
        (push B (u16 (u32 ((conc c k).ip + 3))) { conc c k with ip := u32 ((conc c k).ip + 3) } m).bind fun x =>
          .ok ({ x.1 with ip := lo + 256 * hi, cycles := x.1.cycles + 3 }, x.2, STATUS_NORMAL)
      else .ok ({ conc c k with ip := u32 ((conc c k).ip + 3) }, m, STATUS_NORMAL) := rfl
  have e : lo + 256 * hi = hi * 256 + lo := by omega
  rw [hrun, cond_conc hc k cnd hne, conc_ip, e, ret_addr]
  exact rel_ite _ (push_jump B hc k _ _ _ 3 clk _ m (by omega) rfl)
    (rel_goto hc k 0 clk m .normal (Nat.mod_lt _ (by decide)) (u32_mod _) (Nat.zero_add _))

theorem op_rst {v : Nat} (hv : v < 65536) :
    OpRel B (Op.ResetVector v) len clk fun c m =>
      (SM83.push16 (memOf B) c m ((c.pc + 1) % 65536)).bind fun x => .ok ({ x.1 with pc := v }, x.2, 0 + clk / 4, .normal) := by
  refine ⟨fun c k m hc => ?_⟩
  have hrun : runOp B (Op.ResetVector v) (conc c k) m len =
      (push B (u16 (u32 ((conc c k).ip + 1))) { conc c k with ip := u32 ((conc c k).ip + 1) } m).bind fun x =>
        .ok ({ x.1 with ip := v, cycles := x.1.cycles + 0 }, x.2, STATUS_NORMAL) := rfl
  rw [hrun, conc_ip, ret_addr]
  exact push_jump B hc k _ _ _ 0 clk _ m hv rfl

theorem op_ret (hB : ByteBus B) :
    OpRel B (Op.Return .Always) len clk fun c m =>
      (SM83.pop16 (memOf B) c m).bind fun x => .ok ({ x.2 with pc := x.1 }, m, 3 + clk / 4, .normal) := by
  refine ⟨fun c k m hc => ?_⟩
  have hrun : runOp B (Op.Return .Always) (conc c k) m len =
      (pop B { conc c k with ip := (conc c k).ip + 1 } m).bind fun x =>
        .ok ({ x.2 with ip := x.1, cycles := x.2.cycles + 3 }, m, STATUS_NORMAL) := rfl
  rw [hrun]
  exact pop_jump B hB hc k _ 3 clk _ m .normal rfl

theorem op_ret_cc (hB : ByteBus B) (cnd : Cond) (hne : cnd ≠ .Always) :
    OpRel B (Op.Return cnd) 1 clk fun c m =>
      if SM83.cond c (idxC cnd) = true then
        (SM83.pop16 (memOf B) c m).bind fun x => .ok ({ x.2 with pc := x.1 }, m, 3 + clk / 4, .normal)
      else .ok (SM83.next c 1, m, clk / 4, .normal) := by
  refine ⟨fun c k m hc => ?_⟩
  have hrun : runOp B (Op.Return cnd) (conc c k) m 1 =
      if condHolds (conc c k).af cnd then
        (pop B { conc c k with ip := (conc c k).ip + 1 } m).bind fun x =>
          .ok ({ x.2 with ip := x.1, cycles := x.2.cycles + 3 }, m, STATUS_NORMAL)
      else .ok ({ conc c k with ip := (conc c k).ip + 1 }, m, STATUS_NORMAL) := rfl
  rw [hrun, cond_conc hc k cnd hne]
  exact rel_ite _ (pop_jump B hB hc k _ 3 clk _ m .normal rfl)
    (rel_goto hc k 0 clk m .normal (Nat.mod_lt _ (by decide)) rfl (Nat.zero_add _))

theorem op_reti (hB : ByteBus B) :
    OpRel B Op.ReturnFromInterrupt len clk fun c m =>
      (SM83.pop16 (memOf B) c m).bind fun x => .ok ({ x.2 with pc := x.1 }, m, 0 + clk / 4, .reti) := by
  refine ⟨fun c k m hc => ?_⟩
  have hrun : runOp B Op.ReturnFromInterrupt (conc c k) m len =
      (pop B { conc c k with ip := (conc c k).ip } m).bind fun x =>
        .ok ({ x.2 with ip := x.1, cycles := x.2.cycles + 0 }, m, statusOf .reti) := rfl
  rw [hrun]
  exact pop_jump B hB hc k _ 0 clk _ m .reti rfl

end GbVerif.C05
