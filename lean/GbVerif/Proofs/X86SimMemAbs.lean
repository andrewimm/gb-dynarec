import GbVerif.Proofs.X86SimMem
/-
C01, the bus side: the stores and loads of A at an address that is not a register pair — LDH (n),A / LDH A,(n) (0xFF00 + n),
LD (nn),A / LD A,(nn) and LD (C),A / LD A,(C) (0xFF00 | C).  The store template is `push rax rcx rdx ; <rsi := address> ;
mov rdi, base ; mov dl, ah ; mov rax, write_helper ; call rax ; pop rdx rcx rax` (`stAbsBody`); the load template calls the
read helper and pokes al into the saved rax's second byte (`ldAbsBody`).  The address instructions are `AddrPre`s:
`addrPre_movi16`, `addrPre_highC`.
-/
namespace GbVerif.X86
open GbVerif.JitCycles GbVerif.Interp
variable {β : Type}

def stAbsTail (o : Nat → Nat) : List (Nat × Instr) :=
  [(o 0, Instr.movabs 7 512), (o 1, Instr.mov8 (R8.lo 2) (R8.hi 0)), (o 2, Instr.movabs 0 514), (o 3, Instr.callRax),
   (o 4, Instr.pop 2), (o 5, Instr.pop 1), (o 6, Instr.pop 0)]

def stAbsBody (apre : List (Nat × Instr)) (o : Nat → Nat) : List (Nat × Instr) :=
  ([(0, Instr.push 0), (1, Instr.push 1), (2, Instr.push 2)] ++ apre) ++ stAbsTail o

theorem stabs_body (B : BusOps β) (apre : List (Nat × Instr)) (A : Nat) (o : Nat → Nat) (e : Nat) (g : Regs) (st s' : St β)
    (hs : Sim g st) (hpre : AddrPre B st apre A) (hex : execList B e (stAbsBody apre o) st = .ok s') :
    B.write st.bus A (getReg g .A) = .ok s'.bus ∧ Sim g s' ∧ s'.stack = st.stack ∧ get s' 14 = get st 14 := by
  have hl : stAbsBody apre o = pushAll [(0, 0), (1, 1), (2, 2)] ++ ((apre ++ [(o 0, Instr.movabs 7 512), (o 1, Instr.mov8 (R8.lo 2) (R8.hi 0))]) ++
      ([(o 2, Instr.movabs 0 514), (o 3, Instr.callRax)] ++ popAll [(o 4, 2), (o 5, 1), (o 6, 0)])) := by
    unfold stAbsBody
    rw [List.append_assoc, List.append_assoc]
    rfl
  rw [hl] at hex
  refine exec_write B (rs := [2, 1, 0]) _ _ hs rfl rfl (by decide) (by decide) (fun e s s2 hsz hr o1 o2 hex => ?_) hex
  obtain ⟨sa, ha, hex⟩ := execList_append B _ _ _ s s2 hex
  obtain ⟨a4, f4⟩ := hpre _ s sa hsz hr o1 o2 ha
  obtain ⟨s5, h5, hex⟩ := execList_cons B _ _ _ _ _ _ hex
  obtain ⟨v5, f5⟩ := step_movabs B sa s5 7 512 _ (by omega) h5
  have sc := (Scratch.of_frame (by decide) ⟨f4.1, f4.2.2.1, f4.2.1, f4.2.2.2.trans hsz.symm⟩).trans (.of_frame (by decide) f5)
  obtain ⟨v6, f6⟩ := step_set_dl B (rd := fun s => get8 s (R8.hi 0)) (fun _ _ => rfl) (sc.size.trans hsz) (execList_one B hex)
  have hv : get8 s5 (hostR8 .A) = getReg g .A :=
    (get8_of_regs .A (fun j hj => by rw [f5.regs j (by omega), f4.1 j (by omega), hr])).trans (get8_sim hs .A)
  have hlt := getReg_lt g .A
  exact ⟨by rw [f6.regs 6 (by decide), f5.regs 6 (by decide)]; exact a4, by rw [v6]; exact hv ▸ Nat.mod_eq_of_lt (hv ▸ hlt),
    sc.trans (.of_frame (by decide) f6)⟩

theorem addrPre_movi16 (B : BusOps β) (st : St β) (off : Nat) (t1 t2 : Nat) (A : Nat)
    (hA : (tokVal st t1 + 256 * (tokVal st t2 + 256 * 0)) % 65536 = A) :
    AddrPre B st [(off, Instr.movi16 6 [t1, t2])] A := by
  intro e s s2 hsz _ ho1 ho2 hex
  have h := execList_one B hex
  have f := keeps_step B _ _ _ _ 6 h rfl rfl
  refine ⟨?_, f.regs, f.stack, f.bus, f.size.trans hsz⟩
  cases Except.ok.inj h
  refine (congrArg (· % 65536) (toNat_setSz_w _ _ _ (by show 6 < s.r.size; omega))).trans ((low16_splice _ _).trans ?_)
  have ht : ∀ t, tokVal ({ s with pc := s.pc + (e - off) } : St β) t = tokVal st t := fun t => by
    show (if t == 256 then s.op1 else if t == 257 then s.op2 else t % 256) = tokVal st t
    rw [ho1, ho2]; rfl
  show (tokVal _ t1 + 256 * (tokVal _ t2 + 256 * 0)) % 65536 = A
  rw [ht, ht, hA]

theorem table_stabs (b1 b2 : Nat) :
    (decodeCode (Gen.emitOp 0xe0) = some (stAbsBody [(3, Instr.movi16 6 [256, 255])] (fun k => [7, 17, 19, 29, 31, 32, 33].getD k 0) ++ [(34, addIp 2), (38, addCy 3)]) ∧
      bytesOf (Gen.emitOp 0xe0) = 42 ∧ Gen.decode 0xe0 b1 b2 = (.LoadAToMemory (65280 + b1) false, 2, 12)) ∧
    (decodeCode (Gen.emitOp 0xea) = some (stAbsBody [(3, Instr.movi16 6 [256, 257])] (fun k => [7, 17, 19, 29, 31, 32, 33].getD k 0) ++ [(34, addIp 3), (38, addCy 4)]) ∧
      bytesOf (Gen.emitOp 0xea) = 42 ∧ Gen.decode 0xea b1 b2 = (.LoadAToMemory (b1 + 256 * b2) true, 3, 16)) :=
  ⟨⟨by decide +kernel, by decide +kernel, rfl⟩, ⟨by decide +kernel, by decide +kernel, rfl⟩⟩

/-- **LDH (n),A**: all states, every operand byte -/
theorem sim_e0 (b1 b2 : Nat) (hb1 : b1 < 256) : SimulatesMem 0xe0 b1 b2 :=
  SimulatesMem.intro_write (table_stabs b1 b2).1 rfl (by decide) (by decide) rfl (fun _ _ _ => rfl)
    fun B g st s1 hs h1 _ hex => stabs_body B _ (65280 + b1) _ _ g st s1 hs
      (addrPre_movi16 B st 3 256 255 _ (by show (st.op1 + 256 * (255 + 256 * 0)) % 65536 = _; rw [h1]; omega)) hex

/-- **LD (nn),A**: all states, every operand -/
theorem sim_ea (b1 b2 : Nat) (hb1 : b1 < 256) (hb2 : b2 < 256) : SimulatesMem 0xea b1 b2 :=
  SimulatesMem.intro_write (table_stabs b1 b2).2 rfl (by decide) (by decide) rfl (fun _ _ _ => rfl)
    fun B g st s1 hs h1 h2 hex => stabs_body B _ (b1 + 256 * b2) _ _ g st s1 hs
      (addrPre_movi16 B st 3 256 257 _ (by show (st.op1 + 256 * (st.op2 + 256 * 0)) % 65536 = _; rw [h1, h2]; omega)) hex

theorem or_255 (a : Nat) (ha : a < 256) : a ||| 255 = 255 := by
  apply Nat.eq_of_testBit_eq
  intro j
  rw [Nat.testBit_or, show (255 : Nat) = 2 ^ 8 - 1 from rfl, Nat.testBit_two_pow_sub_one]
  by_cases hj : j < 8
  · rw [decide_eq_true hj, Bool.or_true]
  · rw [decide_eq_false hj, Bool.or_false, Nat.testBit_lt_two_pow (Nat.lt_of_lt_of_le ha (Nat.pow_le_pow_right (by decide : 2 > 0) (Nat.le_of_not_lt hj)))]

theorem or_ff00_word (x : Nat) (hx : x < 65536) : x ||| 0xff00 = 0xff00 ||| (x % 256) := by
  have h := pack_or (x / 256) (x % 256) 255 0 (Nat.mod_lt _ (by decide)) (by decide)
  rw [Nat.div_add_mod' x 256, or_255 _ (by omega), Nat.or_zero] at h
  have h' := pack_or 255 0 0 (x % 256) (by decide) (Nat.mod_lt _ (by decide))
  rw [Nat.or_zero, Nat.zero_or, Nat.zero_mul, Nat.zero_add] at h'
  exact h.trans h'.symm

theorem step_aluI_w (B : BusOps β) (s s1 : St β) (op : AluOp) (d : Nat) (imm : List Nat) (len : Nat)
    (hop : (op == .cmp) = false) (hd : d < s.r.size) (h : step B s (.aluI op .w d imm false) len = .ok s1) :
    (get s1 d).toNat % 65536 = (aluOp op 16 ((get s d).toNat % 2 ^ 16) (immLE s imm % 2 ^ 16) s.fl).1 % 65536 := by
  simp only [step, hop, Bool.false_eq_true, if_false] at h
  injection h with h; subst h
  exact (congrArg (· % 65536) (toNat_setSz_w ({ s with pc := s.pc + len } : St β) _ _ hd)).trans (low16_splice _ _)

theorem addrPre_highC (B : BusOps β) (g : Regs) (st : St β) (hs : Sim g st) (o1 o2 : Nat) :
    AddrPre B st [(o1, Instr.mov Size.w 6 3), (o2, Instr.aluI AluOp.or Size.w 6 [0, 255] false)] (0xff00 ||| getReg g .C) := by
  intro e s s2 hsz hr _ _ hex
  obtain ⟨s1, h1, hex⟩ := execList_cons B _ _ _ _ _ _ hex
  have h2 := execList_one B hex
  have f1 := keeps_step B _ _ _ _ 6 h1 rfl rfl
  have f := f1.trans (keeps_step B _ _ _ _ 6 h2 rfl rfl)
  refine ⟨?_, f.regs, f.stack, f.bus, f.size.trans hsz⟩
  have v1 : (get s1 6).toNat % 65536 = (get s 3).toNat % 65536 := by
    cases Except.ok.inj h1
    refine (congrArg (· % 65536) (toNat_setSz_w _ _ _ (by show 6 < s.r.size; omega))).trans ((low16_splice _ _).trans ?_)
    show (get s 3).toNat % 2 ^ 16 % 65536 = _
    omega
  have himm : immLE s1 [0, 255] % 2 ^ 16 = 0xff00 := by
    show (tokVal s1 0 + 256 * (tokVal s1 255 + 256 * 0)) % 2 ^ 16 = 0xff00
    rw [tokVal_small _ 0 (by decide), tokVal_small _ 255 (by decide)]
  rw [step_aluI_w B s1 s2 .or 6 [0, 255] _ rfl (by rw [f1.size]; omega) h2, himm]
  show ((get s1 6).toNat % 2 ^ 16 ||| 0xff00) % 65536 = _
  rw [or_ff00_word _ (Nat.mod_lt _ (by decide))]
  have hbc := hs.bc
  rw [hr 3] at v1
  have hlow : (get s1 6).toNat % 2 ^ 16 % 256 = getReg g .C := by show _ = g.bc % 256; omega
  rw [hlow]
  exact Nat.mod_eq_of_lt (Nat.or_lt_two_pow (n := 16) (by decide) (Nat.lt_trans (getReg_lt g .C) (by decide)))

theorem table_e2 (b1 b2 : Nat) :
    decodeCode (Gen.emitOp 0xe2) = some (stAbsBody [(3, Instr.mov Size.w 6 3), (6, Instr.aluI AluOp.or Size.w 6 [0, 255] false)]
      (fun k => [11, 21, 23, 33, 35, 36, 37].getD k 0) ++ [(38, addIp 1), (42, addCy 2)]) ∧
    bytesOf (Gen.emitOp 0xe2) = 46 ∧ Gen.decode 0xe2 b1 b2 = (.LoadToHighMem, 1, 8) :=
  ⟨by decide +kernel, by decide +kernel, rfl⟩

/-- **LD (C),A**: all states -/
theorem sim_e2 (b1 b2 : Nat) : SimulatesMem 0xe2 b1 b2 :=
  SimulatesMem.intro_write (table_e2 b1 b2) rfl (by decide) (by decide) rfl (fun _ _ _ => rfl)
    fun B g st s1 hs _ _ hex => stabs_body B _ (0xff00 ||| getReg g .C) _ _ g st s1 hs (addrPre_highC B g st hs 3 6) hex

def ldAbsTail (o : Nat → Nat) : List (Nat × Instr) :=
  [(o 0, Instr.movabs 7 512), (o 1, Instr.movabs 0 513), (o 2, Instr.callRax), (o 3, Instr.store8 4 17 (R8.lo 0)),
   (o 4, Instr.pop 2), (o 5, Instr.pop 1), (o 6, Instr.pop 0)]

def ldAbsBody (apre : List (Nat × Instr)) (o : Nat → Nat) : List (Nat × Instr) :=
  ([(0, Instr.push 0), (1, Instr.push 1), (2, Instr.push 2)] ++ apre) ++ ldAbsTail o

theorem ldabs_body (B : BusOps β) (hB : ByteReads B) (apre : List (Nat × Instr)) (A : Nat) (o : Nat → Nat) (e : Nat) (g : Regs) (st s' : St β)
    (hs : Sim g st) (hpre : AddrPre B st apre A) (hex : execList B e (ldAbsBody apre o) st = .ok s') :
    ∃ v, B.read st.bus A = .ok v ∧ Sim (setReg g .A v) s' ∧ Untouched st s' := by
  unfold ldAbsBody at hex
  rw [List.append_assoc] at hex
  obtain ⟨v, hrd, hv, hr, hsz, hu⟩ := exec_read_poke B hB (rs := [2, 1, 0]) [(0, 0), (1, 1), (2, 2)] [(o 4, 2), (o 5, 1), (o 6, 0)] 17 (hostR8 .A)
    hs.size rfl rfl (by decide) (by decide) (by decide) rfl rfl hpre hex
  exact ⟨v, hrd, sim_of_regs (set8_sim hs .A v hv) hr hsz, hu⟩

theorem table_ldabs (b1 b2 : Nat) :
    (decodeCode (Gen.emitOp 0xf0) = some (ldAbsBody [(3, Instr.movi16 6 [256, 255])] (fun k => [7, 17, 27, 29, 33, 34, 35].getD k 0) ++ [(36, addIp 2), (40, addCy 3)]) ∧
      bytesOf (Gen.emitOp 0xf0) = 44 ∧ Gen.decode 0xf0 b1 b2 = (.LoadAFromMemory (65280 + b1) false, 2, 12)) ∧
    (decodeCode (Gen.emitOp 0xfa) = some (ldAbsBody [(3, Instr.movi16 6 [256, 257])] (fun k => [7, 17, 27, 29, 33, 34, 35].getD k 0) ++ [(36, addIp 3), (40, addCy 4)]) ∧
      bytesOf (Gen.emitOp 0xfa) = 44 ∧ Gen.decode 0xfa b1 b2 = (.LoadAFromMemory (b1 + 256 * b2) true, 3, 16)) ∧
    (decodeCode (Gen.emitOp 0xf2) = some (ldAbsBody [(3, Instr.mov Size.w 6 3), (6, Instr.aluI AluOp.or Size.w 6 [0, 255] false)]
        (fun k => [11, 21, 31, 33, 37, 38, 39].getD k 0) ++ [(40, addIp 1), (44, addCy 2)]) ∧
      bytesOf (Gen.emitOp 0xf2) = 48 ∧ Gen.decode 0xf2 b1 b2 = (.LoadFromHighMem, 1, 8)) :=
  ⟨⟨by decide +kernel, by decide +kernel, rfl⟩, ⟨by decide +kernel, by decide +kernel, rfl⟩, ⟨by decide +kernel, by decide +kernel, rfl⟩⟩

/-- **LDH A,(n)**: all states, every operand byte -/
theorem sim_f0 (b1 b2 : Nat) (hb1 : b1 < 256) : SimulatesMem 0xf0 b1 b2 :=
  SimulatesMem.intro_read (table_ldabs b1 b2).1 rfl (by decide) (by decide) rfl (fun _ _ _ => rfl)
    fun B hB g st s1 hs h1 _ hex => ldabs_body B hB _ (65280 + b1) _ _ g st s1 hs
      (addrPre_movi16 B st 3 256 255 _ (by show (st.op1 + 256 * (255 + 256 * 0)) % 65536 = _; rw [h1]; omega)) hex

/-- **LD A,(nn)**: all states, every operand -/
theorem sim_fa (b1 b2 : Nat) (hb1 : b1 < 256) (hb2 : b2 < 256) : SimulatesMem 0xfa b1 b2 :=
  SimulatesMem.intro_read (table_ldabs b1 b2).2.1 rfl (by decide) (by decide) rfl (fun _ _ _ => rfl)
    fun B hB g st s1 hs h1 h2 hex => ldabs_body B hB _ (b1 + 256 * b2) _ _ g st s1 hs
      (addrPre_movi16 B st 3 256 257 _ (by show (st.op1 + 256 * (st.op2 + 256 * 0)) % 65536 = _; rw [h1, h2]; omega)) hex

/-- **LD A,(C)**: all states -/
theorem sim_f2 (b1 b2 : Nat) : SimulatesMem 0xf2 b1 b2 :=
  SimulatesMem.intro_read (table_ldabs b1 b2).2.2 rfl (by decide) (by decide) rfl (fun _ _ _ => rfl)
    fun B hB g st s1 hs _ _ hex => ldabs_body B hB _ (0xff00 ||| getReg g .C) _ _ g st s1 hs (addrPre_highC B g st hs 3 6) hex

end GbVerif.X86
