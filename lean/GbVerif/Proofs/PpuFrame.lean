import GbVerif.Proofs.PpuLine
/-!
C15: the mode machine around the pixel pipeline, one tick at a time — what `tick` does inside each mode and at each
mode boundary (`tick_*`), runs of ticks that only count dots (`runTicks_idle`), the set-up at the end of mode 2
(`enterMode3_inv`) and the forty drawing ticks of mode 3 (`drawTicks_inv`).  PpuCompose.lean puts the line and the
frame together from these.
-/
namespace GbVerif.PpuFrame
open GbVerif.Ppu GbVerif.PpuObj GbVerif.PpuSel GbVerif.PpuLine

variable (vram oam : Array Nat)

theorem runTicks_add (a b : Nat) (s : State) :
    runTicks vram oam (a + b) s = (runTicks vram oam a s >>= runTicks vram oam b) := by
  induction a generalizing s with
  | zero => simp [runTicks, pure, Except.pure, bind, Except.bind]
  | succ a ih =>
    have : a + 1 + b = (a + b) + 1 := by omega
    rw [this]
    simp only [runTicks, bind, Except.bind]
    cases tick s vram oam with
    | error e => rfl
    | ok s1 => simp only [ih s1, bind, Except.bind]

theorem tick_m2_last (s : State) (hm : s.mode = .m2) (hd : s.dots + 4 ≥ 80) :
    tick s vram oam = enterMode3 { s with dots := s.dots + 4 - 80, mode := .m3 } vram := by
  simp only [tick, hm, hd, if_true]

theorem tick_m3_draw (s : State) (hm : s.mode = .m3) (hd : s.dots + 4 ≤ 160) (hl : s.line < 144) :
    tick s vram oam = drawStep { s with dots := s.dots + 4 } vram s.dots := by
  have h1 : ¬ (s.dots + 4 ≥ 188) := by omega
  have h2 : s.dots + 4 ≤ 160 ∧ s.line < 144 := ⟨hd, hl⟩
  simp only [tick, hm, h1, h2, and_self, if_true, if_false]

theorem tick_m3_last (s : State) (hm : s.mode = .m3) (h1 : s.dots + 4 ≥ 188) :
    tick s vram oam = .ok { s with dots := s.dots + 4 - 188, mode := .m0 } := by
  simp only [tick, hm, h1, if_true, pure, Except.pure]

/-- ticks that only advance the dot counter: the tests of `tick` that fail -/
def Idle (m : Mode) (d : Nat) : Prop :=
  (m = .m2 ∧ ¬ d + 4 ≥ 80) ∨ (m = .m3 ∧ ¬ d + 4 ≥ 188 ∧ ¬ d + 4 ≤ 160) ∨ (m = .m0 ∧ ¬ d + 4 ≥ 188) ∨
    (m = .m1 ∧ ¬ d + 4 ≥ 456)

theorem tick_idle (s : State) (h : Idle s.mode s.dots) : tick s vram oam = .ok { s with dots := s.dots + 4 } := by
  rcases h with ⟨hm, h⟩ | ⟨hm, h1, h2⟩ | ⟨hm, h⟩ | ⟨hm, h⟩
  · simp only [tick, hm, h, if_false, pure, Except.pure]
  · simp only [tick, hm, h1, h2, false_and, if_false, pure, Except.pure]
  · simp only [tick, hm, h, if_false, pure, Except.pure]
  · simp only [tick, hm, h, if_false, pure, Except.pure]

theorem runTicks_idle (n : Nat) : ∀ (s : State), (∀ k, k < n → Idle s.mode (s.dots + 4 * k)) →
    runTicks vram oam n s = .ok { s with dots := s.dots + 4 * n } := by
  induction n with
  | zero => intro s _; rfl
  | succ n ih =>
    intro s h
    rw [runTicks, tick_idle vram oam s (h 0 (Nat.zero_lt_succ n)), ok_bind, ih]
    · show Except.ok { s with dots := s.dots + 4 + 4 * n } = _
      rw [Nat.add_assoc, Nat.add_comm 4, ← Nat.mul_succ]
    · intro k hk
      have := h (k + 1) (Nat.succ_lt_succ hk)
      rwa [Nat.mul_succ, Nat.add_comm (4 * k), ← Nat.add_assoc] at this

/-- the set-up at the end of mode 2 establishes the loop invariant at pixel 0 -/
theorem enterMode3_inv (r : Ppu.Regs) (hv : vram.size = 8192) (hvb : IsBytes vram) (ly : Nat)
    (s0 : State) (hc : s0.cfg = Cfg.ofRegs r) (hl : s0.line = ly) (hw : s0.writing.size = 23040) (hp : s0.objPix = 8) :
    ∃ s', enterMode3 s0 vram = .ok s' ∧ LineInv r vram oam ly s0 0 s' ∧ Pipe r vram ly 0 s' (tpos r ly 0) := by
  have hwx : s0.cfg.windowX = r.wx := by rw [hc]; rfl
  have hscx : s0.cfg.scrollX = r.scx := by rw [hc]; rfl
  have huse : (!(!s0.cfg.windowEnabled || decide (s0.line < s0.cfg.windowY))) = active r ly := by
    rw [hc, hl, active, Bool.not_or, Bool.not_not, ← decide_not]
    exact congrArg _ (decide_eq_decide.mpr Nat.not_lt)
  unfold enterMode3
  simp only [huse, hwx]
  generalize hwl : (if active r ly = true then some (s0.line - s0.cfg.windowY) else none) = wl
  replace hwl : wl.isSome = active r ly := by rw [← hwl]; cases active r ly <;> rfl
  refine ⟨{ s0 with windowLine := wl, nextTileX := (tcol r ly 0 + 1) % 32,
                     tileCache := (trow r vram ly 0 <<< (2 * tpos r ly 0)) % 65536 }, ?_,
    ⟨hc, hl, hw, rfl, hp, hwl, rfl, rfl, rfl, fun j hj => absurd hj (Nat.not_lt_zero j), fun _ _ => rfl,
      Nat.mod_lt _ (by decide)⟩, ⟨rfl, rfl, rfl⟩⟩
  rw [trow_eq, Nat.mul_comm 2]
  -- either branch fetches column `tcol r ly 0` and shifts by `tpos r ly 0` pixels
  cases hs : srcWin r ly 0
  · have e1 : tcol r ly 0 = (r.scx >>> 3) % 32 := by rw [tcol, hs, if_neg Bool.false_ne_true, shr3, Nat.zero_add]
    have e2 : tpos r ly 0 = r.scx &&& 7 := by rw [tpos, hs, if_neg Bool.false_ne_true, and7, Nat.zero_add]
    have hf := fetch_next (β := State) hv hvb (s := { s0 with windowLine := wl, nextTileX := (r.scx >>> 3) % 32 }) hc hl
      (Nat.mod_lt _ (by decide)) false
    simp only [Bool.false_eq_true, if_false] at hf
    rw [show (active r ly && decide (r.wx ≤ 7)) = false from hs, if_neg Bool.false_ne_true, hscx, hf, hscx, e1, e2]
    rfl
  · have hlt : 7 - r.wx < 8 := Nat.lt_of_le_of_lt (Nat.sub_le _ _) (by decide)
    have e1 : tcol r ly 0 = 0 := by rw [tcol, hs, if_pos rfl, Nat.zero_add, Nat.div_eq_of_lt hlt]
    have e2 : tpos r ly 0 = 7 - r.wx := by rw [tpos, hs, if_pos rfl, Nat.zero_add, Nat.mod_eq_of_lt hlt]
    have hf := fetch_next (β := State) hv hvb (s := { s0 with windowLine := wl, nextTileX := 0 }) hc hl
      (Nat.zero_lt_succ 31) true
    simp only [if_true] at hf
    rw [show (active r ly && decide (r.wx ≤ 7)) = true from hs, if_pos rfl, hf, e1, e2]
    rfl

/-- the mode-3 drawing steps `k, k+1, …` (`n` of them): `previous_dot_count = 4k` -/
def drawSteps : (n k : Nat) → State → Except Panic State
  | 0, _, s => pure s
  | n + 1, k, s => do
    let s ← drawStep s vram (4 * k)
    drawSteps n (k + 1) s

theorem drawSteps_inv (r : Ppu.Regs) (hr : RegsOk r) (hv : vram.size = 8192) (hvb : IsBytes vram) (ly : Nat)
    (hly : ly < 144) (base : State) (hco : CacheOk r vram oam ly base.objCache) :
    ∀ (n k : Nat) (s : State), k + n = 40 → LineInv r vram oam ly base (4 * k) s →
      (4 * k < 160 → ∃ t, Pipe r vram ly (4 * k) s t) →
      ∃ s', drawSteps vram n k s = .ok s' ∧ LineInv r vram oam ly base 160 s' := by
  intro n
  induction n with
  | zero =>
    intro k s hk inv _
    have : 4 * k = 160 := by omega
    rw [this] at inv
    exact ⟨s, rfl, inv⟩
  | succ n ih =>
    intro k s hk inv hp
    have ⟨a, b, c⟩ : 4 * k < 160 ∧ 4 * k + 4 ≤ 160 ∧ k + 1 + n = 40 := by omega
    obtain ⟨t, pipe⟩ := hp a
    obtain ⟨s1, h1, inv1, hp1⟩ := drawStep_inv hv hvb hly hco b inv pipe
    rw [← Nat.mul_succ] at inv1 hp1
    obtain ⟨s', h2, inv2⟩ := ih (k + 1) s1 c inv1 hp1
    exact ⟨s', by simp only [drawSteps, h1, bind, Except.bind]; exact h2, inv2⟩

/-- the same through the machine: forty mode-3 ticks; the base state follows `current_mode_dots` -/
theorem drawTicks_inv (r : Ppu.Regs) (hv : vram.size = 8192) (hvb : IsBytes vram) (ly : Nat)
    (hly : ly < 144) (base : State) (hco : CacheOk r vram oam ly base.objCache) (hm : base.mode = .m3) :
    ∀ (n k : Nat) (s : State), k + n = 40 → LineInv r vram oam ly { base with dots := 4 * k } (4 * k) s →
      (4 * k < 160 → ∃ t, Pipe r vram ly (4 * k) s t) →
      ∃ s', runTicks vram oam n s = .ok s' ∧ LineInv r vram oam ly { base with dots := 160 } 160 s' := by
  intro n
  induction n with
  | zero =>
    intro k s hk inv _
    have e : 4 * k = 160 := by omega
    exact ⟨s, rfl, e ▸ inv⟩
  | succ n ih =>
    intro k s hk inv hp
    have ⟨a, b, c⟩ : 4 * k < 160 ∧ 4 * k + 4 ≤ 160 ∧ k + 1 + n = 40 := by omega
    obtain ⟨t, pipe⟩ := hp a
    have hd : s.dots = 4 * k := inv.dots
    have ht := tick_m3_draw vram oam s (inv.mode.trans hm) (hd ▸ b) (inv.line ▸ hly)
    obtain ⟨s1, h1, inv1, hp1⟩ := drawStep_inv hv hvb hly (base := { base with dots := s.dots + 4 }) hco b
      (inv.setDots _) (pipe.setDots _)
    rw [hd] at ht h1 inv1
    obtain ⟨s', h2, inv2⟩ := ih (k + 1) s1 c inv1 hp1
    exact ⟨s', by simp only [runTicks, ht, h1, bind, Except.bind]; exact h2, inv2⟩

theorem tick_m0_next (s : State) (hm : s.mode = .m0) (hd : s.dots + 4 ≥ 188) (hl : s.line < 143) (cache : Array Nat)
    (hf : findCurrentLineSprites s.cfg vram oam (s.line + 1) = .ok cache) :
    tick s vram oam = .ok { s with dots := s.dots + 4 - 188, line := s.line + 1, mode := .m2, objCache := cache, objPix := 8 } := by
  simp only [tick, hm, hd, hl, if_true, hf, bind, Except.bind, pure, Except.pure]

theorem tick_m0_vblank (s : State) (hm : s.mode = .m0) (hd : s.dots + 4 ≥ 188) (hl : ¬ s.line < 143) :
    tick s vram oam = .ok { s with dots := s.dots + 4 - 188, line := 144, mode := .m1,
                                   visible := s.writing, writing := s.visible } := by
  simp only [tick, hm, hd, hl, if_true, if_false, pure, Except.pure]

theorem tick_m1_wrap (s : State) (hm : s.mode = .m1) (hd : s.dots + 4 ≥ 456) (hl : s.line < 153) :
    tick s vram oam = .ok { s with dots := s.dots + 4 - 456, line := s.line + 1 } := by
  simp only [tick, hm, hd, hl, if_true, pure, Except.pure]

theorem tick_m1_last (s : State) (hm : s.mode = .m1) (hd : s.dots + 4 ≥ 456) (hl : ¬ s.line < 153) (cache : Array Nat)
    (hf : findCurrentLineSprites s.cfg vram oam 0 = .ok cache) :
    tick s vram oam = .ok { s with dots := s.dots + 4 - 456, line := 0, mode := .m2, objCache := cache, objPix := 8 } := by
  simp only [tick, hm, hd, hl, if_true, if_false, hf, bind, Except.bind, pure, Except.pure]

theorem runTicks_then (a b : Nat) (s s1 : State) (h : runTicks vram oam a s = .ok s1) :
    runTicks vram oam (a + b) s = runTicks vram oam b s1 := by
  rw [runTicks_add, h]; rfl

theorem runTicks_one (s : State) : runTicks vram oam 1 s = tick s vram oam := by
  simp only [runTicks, bind, Except.bind, pure, Except.pure]
  cases tick s vram oam <;> rfl

end GbVerif.PpuFrame
