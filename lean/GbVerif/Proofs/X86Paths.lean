import GbVerif.Model.JitPaths
import GbVerif.Proofs.X86Step
/-!
Soundness of the generic path walk `JitPaths.paths` for the executable x86 model: whatever relation `R` between
abstract states and machine states is (a) blind to the program counter and (b) carried by the transfer function across
every step of a non-jump instruction (`Carries`), every complete run of the code from a state related to `a` ends in a
state related to one of the abstract states the walk returns; and if the transfer function accepts no instruction whose
step could fault for another reason than a bus panic (`Safe`), a run that does not complete has stopped with a bus panic
(`paths_run` says both; `paths_sound` is its first half, `analyse_sound` the same for `JitPaths.analyse`).  The walk and
a run meet instruction by instruction (`paths_step`); that the byte offsets of decoded code identify its instructions
(`codeOk`) holds for whatever the decoder returns (`decodeCode_codeOk`).
-/
namespace GbVerif.X86
open GbVerif.JitCycles GbVerif.JitPaths
variable {β : Type} {A : Type}

/-- byte offset of instruction `i` (`endOff` for the end of the code) -/
def offAt (code : List (Nat × Instr)) (endOff i : Nat) : Nat :=
  match code[i]? with | some (o, _) => o | none => endOff

/-- offsets are looked up by first occurrence, none of them is the end offset, and they do not decrease -/
def codeOk (code : List (Nat × Instr)) (endOff : Nat) : Bool :=
  (List.range code.length).all fun i =>
    code.findIdx? (fun p => p.1 == offAt code endOff i) == some i && offAt code endOff i != endOff &&
    decide (offAt code endOff i ≤ offAt code endOff (i + 1))

theorem codeOk_at {code : List (Nat × Instr)} {endOff : Nat} (h : codeOk code endOff = true) {i : Nat} (hi : i < code.length) :
    code.findIdx? (fun p => p.1 == offAt code endOff i) = some i ∧ offAt code endOff i ≠ endOff ∧
    offAt code endOff i ≤ offAt code endOff (i + 1) := by
  unfold codeOk at h
  rw [List.all_eq_true] at h
  have := h i (List.mem_range.mpr hi)
  simp only [Bool.and_eq_true, beq_iff_eq, bne_iff_ne, ne_eq, decide_eq_true_eq] at this
  exact ⟨this.1.1, this.1.2, this.2⟩

theorem offAt_of_get {code : List (Nat × Instr)} {endOff i off : Nat} {ins : Instr} (h : code[i]? = some (off, ins)) :
    offAt code endOff i = off := by unfold offAt; rw [h]

theorem indexOf_offAt {code : List (Nat × Instr)} {endOff off j : Nat} (h : indexOf code endOff off = some j) :
    offAt code endOff j = off := by
  unfold indexOf at h
  split at h
  · rename_i he
    cases h
    unfold offAt
    have : code[code.length]? = none := by simp
    rw [this]
    exact (by simpa using he : off = endOff).symm
  · have := List.findIdx?_eq_some_iff_getElem.mp h
    obtain ⟨hj, hp, _⟩ := this
    unfold offAt
    rw [List.getElem?_eq_getElem hj]
    simpa using hp

theorem offAt_cons (p : Nat × Instr) (code : List (Nat × Instr)) (endOff i : Nat) :
    offAt (p :: code) endOff (i + 1) = offAt code endOff i := rfl

theorem offAt_length (code : List (Nat × Instr)) (endOff : Nat) : offAt code endOff code.length = endOff := by
  unfold offAt; rw [List.getElem?_eq_none (Nat.le_refl _)]

theorem codeOk_of_increasing {code : List (Nat × Instr)} {endOff : Nat}
    (h : ∀ i, i < code.length → offAt code endOff i < offAt code endOff (i + 1)) : codeOk code endOff = true := by
  have mono : ∀ j i, i < j → j ≤ code.length → offAt code endOff i < offAt code endOff j := by
    intro j
    induction j with
    | zero => intro i hi; omega
    | succ j ih =>
      intro i hi hj
      rcases Nat.lt_or_ge i j with h' | h'
      · exact Nat.lt_trans (ih i h' (by omega)) (h j (by omega))
      · rw [show i = j by omega]; exact h j (by omega)
  unfold codeOk
  rw [List.all_eq_true]
  intro i hi
  have hi := List.mem_range.mp hi
  have hend := mono code.length i hi (Nat.le_refl _)
  rw [offAt_length] at hend
  simp only [Bool.and_eq_true, beq_iff_eq, bne_iff_ne, ne_eq, decide_eq_true_eq]
  refine ⟨⟨?_, by omega⟩, Nat.le_of_lt (h i hi)⟩
  have hat : ∀ j (hj : j < code.length), code[j].1 = offAt code endOff j := by
    intro j hj; unfold offAt; rw [List.getElem?_eq_getElem hj]
  rw [List.findIdx?_eq_some_iff_getElem]
  refine ⟨hi, by rw [hat i hi]; exact beq_self_eq_true _, ?_⟩
  intro j hji
  have := mono i j hji (by omega)
  rw [hat j (by omega)]
  simp only [beq_iff_eq]; omega

theorem foldl_tokBytes (l : List Nat) (a : Nat) : l.foldl (fun a t => a + tokBytes t) a = a + bytesOf l := by
  unfold bytesOf
  induction l generalizing a with
  | nil => rfl
  | cons x l ih => rw [List.foldl_cons, List.foldl_cons, ih, ih (0 + tokBytes x)]; omega

theorem bytesOf_take_drop (n : Nat) (ts : List Nat) : bytesOf (ts.take n) + bytesOf (ts.drop n) = bytesOf ts := by
  conv => rhs; rw [← List.take_append_drop n ts]
  unfold bytesOf
  rw [List.foldl_append]
  exact (foldl_tokBytes _ _).symm

theorem bytesOf_take_pos {n : Nat} {ts : List Nat} (hn : n ≠ 0) (ht : ts ≠ []) : 0 < bytesOf (ts.take n) := by
  obtain ⟨n, rfl⟩ := Nat.exists_eq_succ_of_ne_zero hn
  cases ts with
  | nil => exact absurd rfl ht
  | cons x xs =>
    rw [List.take_succ_cons]
    unfold bytesOf
    rw [List.foldl_cons, foldl_tokBytes]
    unfold tokBytes; split <;> omega

theorem decodeAll_offsets : ∀ (fuel : Nat) (ts : List Nat) (off : Nat) (code : List (Nat × Instr)),
    decodeAll ts off fuel = some code →
    offAt code (off + bytesOf ts) 0 = off ∧
    ∀ i, i < code.length → offAt code (off + bytesOf ts) i < offAt code (off + bytesOf ts) (i + 1) := by
  intro fuel
  induction fuel with
  | zero => intro ts off code h; cases ts <;> cases h
  | succ fuel ih =>
    intro ts off code h
    cases ts with
    | nil =>
      cases h
      exact ⟨rfl, fun i hi => absurd hi (Nat.not_lt_zero i)⟩
    | cons t ts =>
      rw [decodeAll] at h
      split at h
      · cases h
      · rename_i ins n _
        split at h
        · cases h
        · rename_i hn
          split at h
          · rename_i rest hrest
            cases h
            obtain ⟨h0, hinc⟩ := ih _ _ _ hrest
            have hb := bytesOf_take_drop n (t :: ts)
            have hp := bytesOf_take_pos (ts := t :: ts) (by simpa using hn) (by intro e; cases e)
            have hE : off + bytesOf ((t :: ts).take n) + bytesOf ((t :: ts).drop n) = off + bytesOf (t :: ts) := by omega
            rw [hE] at h0 hinc
            refine ⟨rfl, fun i hi => ?_⟩
            cases i with
            | zero => rw [offAt_cons, h0]; show off < _; omega
            | succ i => exact hinc i (by simpa using hi)
          · cases h
      · intro e; cases e

theorem decodeCode_codeOk {t : List Nat} {code : List (Nat × Instr)} (h : decodeCode t = some code) :
    codeOk code (bytesOf t) = true ∧ offAt code (bytesOf t) 0 = 0 := by
  obtain ⟨h0, hinc⟩ := decodeAll_offsets _ _ _ _ h
  rw [Nat.zero_add] at h0 hinc
  exact ⟨codeOk_of_increasing hinc, h0⟩

theorem run_unfold' (B : Interp.BusOps β) {code : List (Nat × Instr)} {endOff : Nat} (hok : codeOk code endOff = true)
    {i off : Nat} {ins : Instr} (hget : code[i]? = some (off, ins)) {s : St β} (hpc : s.pc = off) {fr : Nat} :
    run B code endOff (fr + 1) s =
      match step B s ins (offAt code endOff (i + 1) - off) with
      | .ok s' => run B code endOff fr s'
      | .error e => .error e := by
  obtain ⟨hi, -⟩ := List.getElem?_eq_some_iff.mp hget
  obtain ⟨h1, h2, _⟩ := codeOk_at hok hi
  rw [offAt_of_get hget] at h1 h2
  rw [run, hpc, if_neg (by simpa using h2), h1]
  simp only [hget]
  rfl

theorem run_unfold (B : Interp.BusOps β) {code : List (Nat × Instr)} {endOff : Nat} (hok : codeOk code endOff = true)
    {i off : Nat} {ins : Instr} (hget : code[i]? = some (off, ins)) {s s' : St β} (hpc : s.pc = off) {fr : Nat}
    (h : run B code endOff (fr + 1) s = .ok s') :
    ∃ s1, step B s ins (offAt code endOff (i + 1) - off) = .ok s1 ∧ run B code endOff fr s1 = .ok s' := by
  rw [run_unfold' B hok hget hpc] at h
  cases hs : step B s ins (offAt code endOff (i + 1) - off) with
  | error e => rw [hs] at h; cases h
  | ok s1 => rw [hs] at h; exact ⟨s1, rfl, h⟩

theorem run_end (B : Interp.BusOps β) (code : List (Nat × Instr)) {endOff : Nat} {s : St β} (hpc : s.pc = endOff) (fr : Nat) :
    run B code endOff (fr + 1) s = .ok s := by
  rw [run, if_pos (by rw [hpc]; exact beq_self_eq_true _)]

/-- what an instance has to show about its transfer function -/
structure Carries (B : Interp.BusOps β) (tr : Instr → A → Option A) (R : A → St β → Prop) : Prop where
  pc : ∀ a s pc', R a s → R a { s with pc := pc' }
  step : ∀ ins a a' s s1 len, (∀ c rel, ins ≠ .jcc c rel) → (∀ rel, ins ≠ .jmp rel) → tr ins a = some a' →
    R a s → s.r.size = 16 → step B s ins len = .ok s1 → R a' s1

def isBus : Fault → Prop
  | .bus _ => True
  | _ => False

/-- the transfer function refuses every instruction whose step could fault for a reason other than a bus panic -/
structure Safe (B : Interp.BusOps β) (tr : Instr → A → Option A) (R : A → St β → Prop) : Prop where
  step : ∀ ins a a' s len e, (∀ c rel, ins ≠ .jcc c rel) → (∀ rel, ins ≠ .jmp rel) → tr ins a = some a' →
    R a s → s.r.size = 16 → step B s ins len = .error e → isBus e

/-- where a `rel8` jump at instruction `i` lands (`nxt` is the offset of instruction `i + 1`), and how the walk goes on
from there: forward only, to an instruction boundary, with a literal displacement -/
def jumpTo {α : Type} (code : List (Nat × Instr)) (endOff i nxt rel : Nat) (F : Nat → Option α) : Option α :=
  if rel ≥ 128 then none else
  match indexOf code endOff (nxt + rel) with
  | some j => if j ≤ i then none else F j
  | none => none

theorem jumpTo_some {α : Type} {code : List (Nat × Instr)} {endOff i nxt rel : Nat} {F : Nat → Option α} {x : α}
    (h : jumpTo code endOff i nxt rel F = some x) :
    ∃ j, rel < 128 ∧ indexOf code endOff (nxt + rel) = some j ∧ i < j ∧ F j = some x := by
  unfold jumpTo at h
  split at h
  · cases h
  · split at h
    · rename_i j hidx
      split at h
      · cases h
      · exact ⟨j, by omega, hidx, by omega, h⟩
    · cases h

theorem jumpTo_congr {α γ : Type} {code : List (Nat × Instr)} {endOff i nxt rel : Nat} {F : Nat → Option α} {G : Nat → Option γ}
    {x : α} {y : γ} (h : jumpTo code endOff i nxt rel F = some x) (hFG : ∀ j, F j = some x → G j = some y) :
    jumpTo code endOff i nxt rel G = some y := by
  obtain ⟨j, hrel, hidx, hji, hF⟩ := jumpTo_some h
  unfold jumpTo
  rw [if_neg (by omega), hidx]
  exact (if_neg (by omega)).trans (hFG j hF)

theorem paths_at (tr : Instr → A → Option A) {code : List (Nat × Instr)} {endOff i off : Nat} {ins : Instr} (fa : Nat) (a : A)
    (hget : code[i]? = some (off, ins)) :
    paths tr code endOff i (fa + 1) a =
      match (generalizing := false) ins with
      | .jcc _ rel => jumpTo code endOff i (offAt code endOff (i + 1)) rel fun j =>
        match paths tr code endOff (i + 1) fa a, paths tr code endOff j fa a with
        | some x, some y => some (x ++ y)
        | _, _ => none
      | .jmp rel => jumpTo code endOff i (offAt code endOff (i + 1)) rel fun j => paths tr code endOff j fa a
      | ins =>
        match tr ins a with
        | some a' => paths tr code endOff (i + 1) fa a'
        | none => none := by
  rw [paths, hget]; rfl

theorem paths_nojump (tr : Instr → A → Option A) {code : List (Nat × Instr)} {endOff i off : Nat} {ins : Instr} (fa : Nat) (a : A)
    (hget : code[i]? = some (off, ins)) (hj1 : ∀ c rel, ins ≠ .jcc c rel) (hj2 : ∀ rel, ins ≠ .jmp rel) :
    paths tr code endOff i (fa + 1) a =
      match tr ins a with
      | some a' => paths tr code endOff (i + 1) fa a'
      | none => none := by
  rw [paths_at tr fa a hget]
  split
  · exact absurd rfl (hj1 _ _)
  · exact absurd rfl (hj2 _)
  · rfl

theorem paths_end {tr : Instr → A → Option A} {code : List (Nat × Instr)} {endOff i fa : Nat} {a : A} {L : List A}
    (h : paths tr code endOff i (fa + 1) a = some L) (hget : code[i]? = none) : L = [a] ∧ i = code.length := by
  rw [paths, hget] at h
  simp only [] at h
  split at h
  · rename_i hi
    injection h with h
    exact ⟨h.symm, by simpa using hi⟩
  · cases h

/-- the walk and a run, one instruction on: a completed step lands on a later instruction, from which the walk goes on
towards results it has already counted; a step that faults is one the transfer function has accepted (jumps do not fault) -/
theorem paths_step (B : Interp.BusOps β) (tr : Instr → A → Option A) (R : A → St β → Prop) (hC : Carries B tr R)
    {code : List (Nat × Instr)} {endOff : Nat} (hok : codeOk code endOff = true) {i fa : Nat} {a : A} {L : List A}
    (h : paths tr code endOff i (fa + 1) a = some L) {off : Nat} {ins : Instr} (hget : code[i]? = some (off, ins))
    {s : St β} (hsz : s.r.size = 16) (hspc : s.pc = off) (hR : R a s) :
    (∀ s1, step B s ins (offAt code endOff (i + 1) - off) = .ok s1 →
      ∃ j a1 L1, i < j ∧ paths tr code endOff j fa a1 = some L1 ∧ (∀ x ∈ L1, x ∈ L) ∧
        s1.r.size = 16 ∧ s1.pc = offAt code endOff j ∧ R a1 s1) ∧
    (∀ e, step B s ins (offAt code endOff (i + 1) - off) = .error e → Safe B tr R → isBus e) := by
  obtain ⟨hi, -⟩ := List.getElem?_eq_some_iff.mp hget
  obtain ⟨_, _, hmono⟩ := codeOk_at hok hi
  rw [offAt_of_get hget] at hmono
  have next : s.pc + (offAt code endOff (i + 1) - off) = offAt code endOff (i + 1) := by omega
  have land : ∀ {j rel : Nat} (t : St β), rel < 128 → indexOf code endOff (offAt code endOff (i + 1) + rel) = some j →
      s.pc + (offAt code endOff (i + 1) - off) + tokVal t rel = offAt code endOff j :=
    fun t hrel hidx => by rw [indexOf_offAt hidx, tokVal_small t _ (by omega), next]
  rw [paths_at tr fa a hget] at h
  split at h
  · rename_i c rel
    obtain ⟨j, hrel, hidx, hji, hF⟩ := jumpTo_some h
    refine ⟨fun s1 hstep => ?_, fun e hstep => by cases hstep⟩
    split at hF
    · rename_i x y hx hy
      cases hF; cases hstep
      by_cases hcond : condHolds s.fl c = true
      · rw [if_pos hcond]
        exact ⟨j, a, y, hji, hy, fun _ => List.mem_append_right _, hsz, land _ hrel hidx, hC.pc _ _ _ (hC.pc _ _ _ hR)⟩
      · rw [if_neg hcond]
        exact ⟨i + 1, a, x, Nat.lt_succ_self i, hx, fun _ => List.mem_append_left _, hsz, next, hC.pc _ _ _ hR⟩
    · cases hF
  · rename_i rel
    obtain ⟨j, hrel, hidx, hji, hF⟩ := jumpTo_some h
    refine ⟨fun s1 hstep => ?_, fun e hstep => by cases hstep⟩
    cases hstep
    exact ⟨j, a, L, hji, hF, fun _ hx => hx, hsz, land _ hrel hidx, hC.pc _ _ _ (hC.pc _ _ _ hR)⟩
  · rename_i hj1 hj2
    split at h
    · rename_i a' htr
      refine ⟨fun s1 hstep => ?_, fun e hstep hS => hS.step ins a a' s _ e hj1 hj2 htr hR hsz hstep⟩
      have eff := step_effect B hstep
      exact ⟨i + 1, a', L, Nat.lt_succ_self i, h, fun _ hx => hx, eff.size.trans hsz, (eff.pc hj1 hj2).trans next,
        hC.step ins a a' s s1 _ hj1 hj2 htr hR hsz hstep⟩
    · cases h

/-- the walk covers every run; `code.length < i + fr`: the fuel suffices for the instructions that are left -/
theorem paths_run (B : Interp.BusOps β) (tr : Instr → A → Option A) (R : A → St β → Prop) (hC : Carries B tr R)
    (code : List (Nat × Instr)) (endOff : Nat) (hok : codeOk code endOff = true) :
    ∀ (fa i : Nat) (a : A) (L : List A), paths tr code endOff i fa a = some L →
    ∀ (fr : Nat) (s : St β), s.r.size = 16 → s.pc = offAt code endOff i → R a s →
    match run B code endOff fr s with
    | .ok s' => ∃ a' ∈ L, R a' s'
    | .error e => Safe B tr R → code.length < i + fr → isBus e := by
  intro fa
  induction fa with
  | zero => intro i a L h; cases h
  | succ fa ih =>
    intro i a L h fr s hsz hpc hR
    cases hget : code[i]? with
    | none =>
      obtain ⟨rfl, rfl⟩ := paths_end h hget
      cases fr with
      | zero => exact fun _ hf => absurd hf (Nat.lt_irrefl _)
      | succ fr =>
        rw [run_end B code (hpc.trans (offAt_length code endOff))]
        exact ⟨a, List.mem_singleton.mpr rfl, hR⟩
    | some p =>
      obtain ⟨off, ins⟩ := p
      obtain ⟨hi, -⟩ := List.getElem?_eq_some_iff.mp hget
      cases fr with
      | zero => exact fun _ hf => absurd hf (by omega)
      | succ fr =>
        have hspc := hpc.trans (offAt_of_get hget)
        obtain ⟨hokS, herr⟩ := paths_step B tr R hC hok h hget hsz hspc hR
        rw [run_unfold' B hok hget hspc]
        cases hstep : step B s ins (offAt code endOff (i + 1) - off) with
        | error e => exact fun hS _ => herr e hstep hS
        | ok s1 =>
          obtain ⟨j, a1, L1, hij, hp, hsub, hsz1, hpc1, hR1⟩ := hokS s1 hstep
          have := ih j a1 L1 hp fr s1 hsz1 hpc1 hR1
          show match run B code endOff fr s1 with | .ok s' => _ | .error e => _
          cases hrun : run B code endOff fr s1 with
          | ok s' => rw [hrun] at this; obtain ⟨a', ha', hRa⟩ := this; exact ⟨a', hsub a' ha', hRa⟩
          | error e => rw [hrun] at this; exact fun hS hf => this hS (by omega)

theorem paths_sound (B : Interp.BusOps β) (tr : Instr → A → Option A) (R : A → St β → Prop) (hC : Carries B tr R)
    (code : List (Nat × Instr)) (endOff : Nat) (hok : codeOk code endOff = true) :
    ∀ (fa i : Nat) (a : A) (L : List A), paths tr code endOff i fa a = some L →
    ∀ (fr : Nat) (s s' : St β), s.r.size = 16 → s.pc = offAt code endOff i → R a s → run B code endOff fr s = .ok s' →
    ∃ a' ∈ L, R a' s' := by
  intro fa i a L h fr s s' hsz hpc hR hrun
  have := paths_run B tr R hC code endOff hok fa i a L h fr s hsz hpc hR
  rw [hrun] at this
  exact this

theorem mem_insertSorted (x y : Nat) : ∀ l : List Nat, y ∈ insertSorted x l ↔ y = x ∨ y ∈ l
  | [] => by simp [insertSorted]
  | z :: zs => by
    unfold insertSorted
    split
    · simp
    · split
      · rename_i h; cases eq_of_beq h; simp
      · rw [List.mem_cons, mem_insertSorted x y zs, List.mem_cons]; exact or_left_comm

theorem mem_norm (y : Nat) : ∀ l : List Nat, y ∈ norm l ↔ y ∈ l
  | [] => by simp [norm]
  | x :: xs => by
    have ih := mem_norm y xs
    unfold norm at ih ⊢
    rw [List.foldr_cons, mem_insertSorted, ih]
    simp

theorem mem_mapAll {A B : Type} (f : A → Option B) : ∀ (l : List A) (l' : List B), mapAll f l = some l' →
    ∀ a ∈ l, ∃ b ∈ l', f a = some b
  | [], _, _, a, ha => by cases ha
  | x :: xs, l', h, a, ha => by
    unfold mapAll at h
    split at h
    · rename_i y ys hx hxs
      cases h
      rcases List.mem_cons.mp ha with rfl | e
      · exact ⟨y, List.mem_cons_self, hx⟩
      · obtain ⟨b, hb, hf⟩ := mem_mapAll f xs ys hxs a e
        exact ⟨b, List.mem_cons_of_mem _ hb, hf⟩
    · cases h

theorem analyse_wf {A : Type} {tr : Instr → A → Option A} {init : A} {fin : A → Option Nat} {t C : List Nat}
    (h : JitPaths.analyse tr init fin t = some C) :
    ∃ code, decodeCode t = some code ∧ codeOk code (bytesOf t) = true ∧ offAt code (bytesOf t) 0 = 0 := by
  unfold JitPaths.analyse at h
  cases hdec : decodeCode t with
  | none => rw [hdec] at h; cases h
  | some code => exact ⟨code, rfl, decodeCode_codeOk hdec⟩

/-- **what `analyse` means** on executions -/
theorem analyse_sound (B : Interp.BusOps β) (tr : Instr → A → Option A) (init : A) (fin : A → Option Nat)
    (R : A → St β → Prop) (hC : Carries B tr R)
    (tokens : List Nat) (code : List (Nat × Instr)) (C : List Nat)
    (hdec : decodeCode tokens = some code) (hok : codeOk code (bytesOf tokens) = true) (hA : analyse tr init fin tokens = some C)
    (fr : Nat) (s s' : St β) (hsz : s.r.size = 16) (hpc : s.pc = offAt code (bytesOf tokens) 0) (hR : R init s)
    (hrun : run B code (bytesOf tokens) fr s = .ok s') :
    ∃ a' n, R a' s' ∧ fin a' = some n ∧ n ∈ C := by
  unfold analyse at hA
  rw [hdec] at hA
  simp only [] at hA
  split at hA
  · cases hA
  · rename_i L hL
    obtain ⟨M, hM, rfl⟩ := Option.map_eq_some_iff.mp hA
    obtain ⟨a', ha', hR'⟩ := paths_sound B tr R hC code (bytesOf tokens) hok _ 0 init L hL fr s s' hsz hpc hR hrun
    obtain ⟨n, hn, hf⟩ := mem_mapAll fin L M hM a' ha'
    exact ⟨a', n, hR', hf, (mem_norm n M).mpr hn⟩

end GbVerif.X86
