import GbVerif.Model.Bus
import GbVerif.Proofs.NatBits
/-!
Basic lemmas about the bus model (`Model/Bus.lean`): the well-formedness invariant (buffer sizes as
`Bus.create` makes them), one rewriting lemma per region of the two address ladders, and which components of the
state a read consults (`read_congr`).  Used by C10, C11, C16.

The first three lemmas, about `Except` in general, are in the namespace `GbVerif.CoreProofs`, where most of their
users are.
-/
namespace GbVerif.CoreProofs

/-! The model's partial functions live in `Except`: how a `>>=` that returns comes apart. -/

theorem bind_ok_elim {ε α β : Type} {x : Except ε α} {f : α → Except ε β} {b : β} (h : (x >>= f) = .ok b) :
    ∃ a, x = .ok a ∧ f a = .ok b := by
  cases x with
  | error e => cases h
  | ok a => exact ⟨a, rfl, h⟩

theorem bind_ok {ε α β : Type} {x : Except ε α} {v : α} (h : x = .ok v) (f : α → Except ε β) : (x >>= f) = f v := by
  subst h; rfl

theorem ok_inj {ε α : Type} {x : Except ε α} {a b : α} (h1 : x = .ok a) (h2 : x = .ok b) : a = b := by
  rw [h1] at h2; injection h2

end GbVerif.CoreProofs

namespace GbVerif.BusProofs
open GbVerif.Bus

export GbVerif.NatBits (and_3fff and_1fff and_fff and_ff and_7f)

theorem beq_ne {a b : Nat} (h : a ≠ b) : ¬ ((a == b) = true) := by simpa using h
theorem beq_eq {a b : Nat} (h : a = b) : (a == b) = true := by simpa using h

/-- buffer sizes as `Bus.create` (`MemoryAreas::with_rom_file`) makes them; the cartridge RAM size is arbitrary -/
structure WF (s : State) : Prop where
  vram : s.vram.size = 0x2000
  wram : s.wram.size = 0x2000
  oam : s.oam.size = 0xa0
  hram : s.hram.size = 127
  romLen : s.romLen = s.cart.romBanks * 0x4000
  banks : 2 ≤ s.cart.romBanks

theorem getRomBank_lt (c : Cart.State) (h : 2 ≤ c.romBanks) : Cart.getRomBank c < c.romBanks := by
  unfold Cart.getRomBank
  cases c.kind <;> simp only
  · omega
  · exact Nat.mod_lt _ (by omega)
  · exact Nat.mod_lt _ (by omega)

theorem writeRom_fixed (c : Cart.State) (a v : Nat) :
    (Cart.writeRom c a v).kind = c.kind ∧ (Cart.writeRom c a v).romBanks = c.romBanks ∧
    (Cart.writeRom c a v).ramBanks = c.ramBanks := by
  unfold Cart.writeRom
  cases hk : c.kind <;> simp only <;> (repeat' split) <;> simp [hk]

theorem rd_ok {w : String} {a : Array Nat} {i : Nat} (h : i < a.size) : rd w a i = .ok a[i] := by
  unfold rd; rw [dif_pos h]

theorem wr_ok {w : String} {a : Array Nat} {i : Nat} (v : Nat) (h : i < a.size) : wr w a i v = .ok (a.set i v) := by
  unfold wr; rw [dif_pos h]

theorem rd_set_eq {w : String} {a : Array Nat} {i : Nat} (v : Nat) (h : i < a.size) :
    rd w (a.set i v) i = .ok v := by
  rw [rd_ok (by simpa using h)]; simp

theorem rd_set_ne {w : String} {a : Array Nat} {i j : Nat} (v : Nat) (h : i < a.size) (hne : i ≠ j) :
    rd w (a.set i v) j = rd w a j := by
  unfold rd
  by_cases hj : j < a.size
  · rw [dif_pos (by simpa using hj), dif_pos hj]; simp [Array.getElem_set, hne]
  · rw [dif_neg (by simpa using hj), dif_neg hj]

/-! ### the two ladders, one lemma per region -/

section ladders
variable (s : State) (a : Nat)

theorem read_rom0 (h : a < 0x4000) :
    read s a = if a < s.romLen then .ok (s.rom a) else .error (.oob "rom0") := by
  unfold Bus.read; rw [if_pos h]

theorem read_romx (h1 : 0x4000 ≤ a) (h2 : a < 0x8000) :
    read s a = if 0x4000 * Cart.getRomBank s.cart + (a &&& 0x3fff) < s.romLen
      then .ok (s.rom (0x4000 * Cart.getRomBank s.cart + (a &&& 0x3fff))) else .error (.oob "romx") := by
  unfold Bus.read; rw [if_neg (by omega), if_pos h2]

theorem read_vram (h1 : 0x8000 ≤ a) (h2 : a < 0xa000) : read s a = rd "vram" s.vram (a &&& 0x1fff) := by
  unfold Bus.read; rw [if_neg (by omega), if_neg (by omega), if_pos h2]

theorem read_cram (h1 : 0xa000 ≤ a) (h2 : a < 0xc000) :
    read s a = if s.cram.size == 0 then .ok 0xff
      else if 0x2000 * Cart.getRamBank s.cart + (a &&& 0x1fff) ≥ s.cram.size then .ok 0xff
      else rd "cram" s.cram (0x2000 * Cart.getRamBank s.cart + (a &&& 0x1fff)) := by
  unfold Bus.read; rw [if_neg (by omega), if_neg (by omega), if_neg (by omega), if_pos h2]

theorem read_wram0 (h1 : 0xc000 ≤ a) (h2 : a < 0xd000) : read s a = rd "wram0" s.wram (a &&& 0xfff) := by
  unfold Bus.read; rw [if_neg (by omega), if_neg (by omega), if_neg (by omega), if_neg (by omega), if_pos h2]

theorem read_wramx (h1 : 0xd000 ≤ a) (h2 : a < 0xe000) :
    read s a = rd "wramx" s.wram (0x1000 + (a &&& 0xfff)) := by
  unfold Bus.read
  rw [if_neg (by omega), if_neg (by omega), if_neg (by omega), if_neg (by omega), if_neg (by omega), if_pos h2]

theorem read_echo (h1 : 0xe000 ≤ a) (h2 : a < 0xfe00) : read s a = .ok 0 := by
  unfold Bus.read
  rw [if_neg (by omega), if_neg (by omega), if_neg (by omega), if_neg (by omega), if_neg (by omega),
    if_neg (by omega), if_pos h2]

theorem read_oam (h1 : 0xfe00 ≤ a) (h2 : a < 0xfea0) : read s a = rd "oam" s.oam (a &&& 0xff) := by
  unfold Bus.read
  rw [if_neg (by omega), if_neg (by omega), if_neg (by omega), if_neg (by omega), if_neg (by omega),
    if_neg (by omega), if_neg (by omega), if_pos h2]

theorem read_unused (h1 : 0xfea0 ≤ a) (h2 : a < 0xff00) : read s a = .ok 0 := by
  unfold Bus.read
  rw [if_neg (by omega), if_neg (by omega), if_neg (by omega), if_neg (by omega), if_neg (by omega),
    if_neg (by omega), if_neg (by omega), if_neg (by omega), if_pos h2]

theorem read_io (h1 : 0xff00 ≤ a) (h2 : a < 0xff80) :
    read s a = if a == 0xff46 then .ok s.dmaReg else .ok (s.io.getByte a) := by
  unfold Bus.read
  rw [if_neg (by omega), if_neg (by omega), if_neg (by omega), if_neg (by omega), if_neg (by omega),
    if_neg (by omega), if_neg (by omega), if_neg (by omega), if_neg (by omega), if_pos h2]

theorem read_hram (h1 : 0xff80 ≤ a) (h2 : a ≠ 0xffff) : read s a = rd "hram" s.hram (a &&& 0x7f) := by
  unfold Bus.read
  rw [if_neg (by omega), if_neg (by omega), if_neg (by omega), if_neg (by omega), if_neg (by omega),
    if_neg (by omega), if_neg (by omega), if_neg (by omega), if_neg (by omega), if_neg (by omega),
    if_neg (beq_ne h2)]

theorem read_ie (h : a = 0xffff) : read s a = .ok (s.io.ie ||| s.io.ieUpper) := by
  subst h; rfl

variable (v : Nat)

theorem write_rom (h : a < 0x8000) : write s a v = .ok { s with cart := Cart.writeRom s.cart a v } := by
  unfold Bus.write; rw [if_pos h]

theorem write_vram (h1 : 0x8000 ≤ a) (h2 : a < 0xa000) :
    write s a v = (wr "vram" s.vram (a &&& 0x1fff) v >>= fun x => pure { s with vram := x }) := by
  unfold Bus.write; rw [if_neg (by omega), if_pos h2]

theorem write_cram (h1 : 0xa000 ≤ a) (h2 : a < 0xc000) :
    write s a v = if s.cram.size == 0 then .ok s
      else if 0x2000 * Cart.getRamBank s.cart + (a &&& 0x1fff) < s.cram.size then
        (wr "cram" s.cram (0x2000 * Cart.getRamBank s.cart + (a &&& 0x1fff)) v >>= fun x => pure { s with cram := x })
      else .ok s := by
  unfold Bus.write; rw [if_neg (by omega), if_neg (by omega), if_pos h2]

theorem write_wram0 (h1 : 0xc000 ≤ a) (h2 : a < 0xd000) :
    write s a v = (wr "wram0" s.wram (a &&& 0xfff) v >>= fun x => pure { s with wram := x }) := by
  unfold Bus.write; rw [if_neg (by omega), if_neg (by omega), if_neg (by omega), if_pos h2]

theorem write_wramx (h1 : 0xd000 ≤ a) (h2 : a < 0xe000) :
    write s a v = (wr "wramx" s.wram (0x1000 + (a &&& 0xfff)) v >>= fun x => pure { s with wram := x }) := by
  unfold Bus.write; rw [if_neg (by omega), if_neg (by omega), if_neg (by omega), if_neg (by omega), if_pos h2]

theorem write_echo (h1 : 0xe000 ≤ a) (h2 : a < 0xfe00) : write s a v = .ok s := by
  unfold Bus.write
  rw [if_neg (by omega), if_neg (by omega), if_neg (by omega), if_neg (by omega), if_neg (by omega), if_pos h2]

theorem write_oam (h1 : 0xfe00 ≤ a) (h2 : a < 0xfea0) :
    write s a v = (wr "oam" s.oam (a &&& 0xff) v >>= fun x => pure { s with oam := x }) := by
  unfold Bus.write
  rw [if_neg (by omega), if_neg (by omega), if_neg (by omega), if_neg (by omega), if_neg (by omega),
    if_neg (by omega), if_pos h2]

theorem write_unused (h1 : 0xfea0 ≤ a) (h2 : a < 0xff00) : write s a v = .ok s := by
  unfold Bus.write
  rw [if_neg (by omega), if_neg (by omega), if_neg (by omega), if_neg (by omega), if_neg (by omega),
    if_neg (by omega), if_neg (by omega), if_pos h2]

theorem write_io (h1 : 0xff00 ≤ a) (h2 : a < 0xff80) :
    write s a v = if a == 0xff46 then .ok { s with dmaReg := v, dma := some (v <<< 8, 0) }
      else .ok { s with io := s.io.setByte a v } := by
  unfold Bus.write
  rw [if_neg (by omega), if_neg (by omega), if_neg (by omega), if_neg (by omega), if_neg (by omega),
    if_neg (by omega), if_neg (by omega), if_neg (by omega), if_pos h2]

theorem write_hram (h1 : 0xff80 ≤ a) (h2 : a ≠ 0xffff) :
    write s a v = (wr "hram" s.hram (a &&& 0x7f) v >>= fun x => pure { s with hram := x }) := by
  unfold Bus.write
  rw [if_neg (by omega), if_neg (by omega), if_neg (by omega), if_neg (by omega), if_neg (by omega),
    if_neg (by omega), if_neg (by omega), if_neg (by omega), if_neg (by omega), if_neg (beq_ne h2)]

theorem write_ie (h : a = 0xffff) :
    write s a v = .ok { s with io := { s.io with ie := v &&& 0x1f, ieUpper := v &&& 0xe0 } } := by
  subst h; rfl

end ladders

/-- Which components of the state a read consults, region by region.  Every hypothesis defaults to "this component is
the same term in both states", so a caller names only the component that differs. -/
theorem read_congr {s s' : State} {a : Nat}
    (hrom : a < 0x8000 → s'.rom = s.rom ∧ s'.romLen = s.romLen := by exact fun _ => ⟨rfl, rfl⟩)
    (hcart : (0x4000 ≤ a ∧ a < 0x8000) ∨ (0xa000 ≤ a ∧ a < 0xc000) → s'.cart = s.cart := by exact fun _ => rfl)
    (hvram : 0x8000 ≤ a ∧ a < 0xa000 → s'.vram = s.vram := by exact fun _ => rfl)
    (hcram : 0xa000 ≤ a ∧ a < 0xc000 → s'.cram = s.cram := by exact fun _ => rfl)
    (hwram : 0xc000 ≤ a ∧ a < 0xe000 → s'.wram = s.wram := by exact fun _ => rfl)
    (hoam : 0xfe00 ≤ a ∧ a < 0xfea0 → s'.oam = s.oam := by exact fun _ => rfl)
    (hio : 0xff00 ≤ a ∧ a < 0xff80 → s'.dmaReg = s.dmaReg ∧ s'.io.getByte a = s.io.getByte a := by
      exact fun _ => ⟨rfl, rfl⟩)
    (hhram : 0xff80 ≤ a ∧ a ≠ 0xffff → s'.hram = s.hram := by exact fun _ => rfl)
    (hie : a = 0xffff → s'.io.ie ||| s'.io.ieUpper = s.io.ie ||| s.io.ieUpper := by exact fun _ => rfl) :
    read s' a = read s a := by
  by_cases c1 : a < 0x4000
  · rw [read_rom0 s' a c1, read_rom0 s a c1, (hrom (by omega)).1, (hrom (by omega)).2]
  by_cases c2 : a < 0x8000
  · rw [read_romx s' a (by omega) c2, read_romx s a (by omega) c2, (hrom c2).1, (hrom c2).2, hcart (.inl ⟨by omega, c2⟩)]
  by_cases c3 : a < 0xa000
  · rw [read_vram s' a (by omega) c3, read_vram s a (by omega) c3, hvram ⟨by omega, c3⟩]
  by_cases c4 : a < 0xc000
  · rw [read_cram s' a (by omega) c4, read_cram s a (by omega) c4, hcram ⟨by omega, c4⟩, hcart (.inr ⟨by omega, c4⟩)]
  by_cases c5 : a < 0xd000
  · rw [read_wram0 s' a (by omega) c5, read_wram0 s a (by omega) c5, hwram ⟨by omega, by omega⟩]
  by_cases c6 : a < 0xe000
  · rw [read_wramx s' a (by omega) c6, read_wramx s a (by omega) c6, hwram ⟨by omega, c6⟩]
  by_cases c7 : a < 0xfe00
  · rw [read_echo s' a (by omega) c7, read_echo s a (by omega) c7]
  by_cases c8 : a < 0xfea0
  · rw [read_oam s' a (by omega) c8, read_oam s a (by omega) c8, hoam ⟨by omega, c8⟩]
  by_cases c9 : a < 0xff00
  · rw [read_unused s' a (by omega) c9, read_unused s a (by omega) c9]
  by_cases c10 : a < 0xff80
  · rw [read_io s' a (by omega) c10, read_io s a (by omega) c10, (hio ⟨by omega, c10⟩).1, (hio ⟨by omega, c10⟩).2]
  by_cases c11 : a = 0xffff
  · rw [read_ie s' a c11, read_ie s a c11, hie c11]
  · rw [read_hram s' a (by omega) c11, read_hram s a (by omega) c11, hhram ⟨by omega, c11⟩]

end GbVerif.BusProofs
