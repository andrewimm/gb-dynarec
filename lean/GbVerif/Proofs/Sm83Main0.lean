import GbVerif.Proofs.Sm83Cls1
import GbVerif.Proofs.Sm83Cls2
import GbVerif.Proofs.Sm83Cls3
/-! Refinement of the unprefixed opcodes 0x00..0x3F (one goal per first byte, operand bytes symbolic). -/
namespace GbVerif.C05
open GbVerif.Interp GbVerif.Enum

theorem main_0 {β : Type} {B : BusOps β} (hB : ByteBus B) : PTree (Goal B) 6 0 := by
  simp only [PTree]
  repeat' constructor
  all_goals (
    intro b1 b2 hb1 hb2 h1 h2
    conv => arg 2; whnf
    first
    -- RRA: `SM83.step` writes the carry-in as `if C then 128 else 0`, the `rot[3]` table as `cy * 128`
    | (guard_target = OpRel _ Op.RotateRightA _ _ _
       exact (op_rotA 3 (by decide) (fun _ _ => rfl)).of_eq fun c _ => by rw [← rra_val c]; rfl)
    | exact op_inc8 _
    | exact op_dec8 _
    | exact op_ld_rn _ hb1
    | exact op_ld16 _ (by decide) hb1 hb2
    | exact op_inc16 _ (by decide)
    | exact op_dec16 _ (by decide)
    | exact op_addhl _ (by decide)
    | exact op_jr_cc _ (by decide) hb1
    | exact op_jr hb1
    | exact op_daa
    | exact op_cpl
    | exact op_scf
    | exact op_ccf
    | exact op_inc_hl hB
    | exact op_dec_hl hB
    | exact op_ld_nn_sp
    | (guard_target = OpRel _ (Op.LoadFromIndirect .A .BC) _ _ _; exact op_ld_a_ind hB .BC (by decide) (fun _ _ => rfl))
    | (guard_target = OpRel _ (Op.LoadFromIndirect .A .DE) _ _ _; exact op_ld_a_ind hB .DE (by decide) (fun _ _ => rfl))
    | (guard_target = OpRel _ (Op.LoadFromIndirect .A .HLIncrement) _ _ _; exact op_ld_a_hlstep hB 1 1 (fun _ => rfl) (fun _ _ => rfl))
    | (guard_target = OpRel _ (Op.LoadFromIndirect .A .HLDecrement) _ _ _
       exact op_ld_a_hlstep hB 4294967295 65535 (fun x => by omega) (fun _ _ => rfl))
    | (guard_target = OpRel _ (Op.LoadToIndirect .BC .A) _ _ _; exact op_st_a_ind .BC (by decide) (fun _ _ => rfl))
    | (guard_target = OpRel _ (Op.LoadToIndirect .DE .A) _ _ _; exact op_st_a_ind .DE (by decide) (fun _ _ => rfl))
    | (guard_target = OpRel _ (Op.LoadToIndirect .HLIncrement .A) _ _ _; exact op_st_a_hlstep 1 1 (fun _ => rfl) (fun _ _ => rfl))
    | (guard_target = OpRel _ (Op.LoadToIndirect .HLDecrement .A) _ _ _
       exact op_st_a_hlstep 4294967295 65535 (fun x => by omega) (fun _ _ => rfl))
    | (guard_target = OpRel _ Op.RotateLeftCarryA _ _ _; exact op_rotA 0 (by decide) (fun _ _ => rfl))
    | (guard_target = OpRel _ Op.RotateRightCarryA _ _ _; exact op_rotA 1 (by decide) (fun _ _ => rfl))
    | (guard_target = OpRel _ Op.RotateLeftA _ _ _; exact op_rotA 2 (by decide) (fun _ _ => rfl))
    | (guard_target = OpRel _ (Op.LoadImmediateToHLIndirect _) _ _ _; exact op_writeR (fun _ _ => rfl) (fun _ _ _ => rfl))
    | exact op_id (fun _ _ => rfl))

end GbVerif.C05
