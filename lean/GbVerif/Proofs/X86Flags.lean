import GbVerif.Proofs.X86Sim
/-
The flag conversion every ALU template ends with: the host flags of the x86 operation are moved into the guest F
register (low byte of rax, guest layout Z=0x80 N=0x40 H=0x20 C=0x10) by

    pushf ; pop rsi ; and esi,0x51 ; shl esi,1 ; add esi,14 ; and esi,0xf0 ; and eax,(0xff00|keep) ; and esi,take ; or eax,esi

(ZF, AF, CF of RFLAGS are bits 6, 4, 0; the shift moves them to 7, 5, 1; adding 14 carries bit 1 into bit 4).
`flag_pipe` says what the nine instructions do to rax, for any masks `keep` / `take`, and that they touch nothing else
but rsi and the flags; the values the 32-bit instructions among them write come first (`step_aluI_d`, `step_alu_d`;
the shift is `step_sh32_lit` of X86Step), and `pipe_low16` reads the result as the guest's (A, F) bytes.
-/
namespace GbVerif.X86
open GbVerif.JitCycles GbVerif.Interp
variable {β : Type}

/-- ZF, AF, CF in the guest's flag layout -/
def conv (fl : Flags) : Nat := (if fl.zf then 0x80 else 0) + (if fl.af then 0x20 else 0) + (if fl.cf then 0x10 else 0)

theorem conv_eq (fl : Flags) : ((((flagsWord fl &&& 81) % 2 ^ 32 * 2 ^ 1 % 2 ^ 32 + 14 + 0) % 2 ^ 32) &&& 240) = conv fl := by
  obtain ⟨cf, pf, af, zf, sf, of⟩ := fl
  cases cf <;> cases pf <;> cases af <;> cases zf <;> cases sf <;> cases of <;> decide

theorem conv_lt (fl : Flags) : conv fl < 256 := by
  unfold conv; split <;> split <;> split <;> omega

/-- the bits the templates take from the conversion: Z and H (`take = 0xe0`: INC / DEC), Z and C (`0x90`: shifts), Z (`0x80`:
SWAP), C (`0x10`: rotates) -/
theorem conv_take (fl : Flags) :
    conv fl &&& 0xe0 = (if fl.zf then 0x80 else 0) + (if fl.af then 0x20 else 0) ∧
    conv fl &&& 0x90 = (if fl.zf then 0x80 else 0) + (if fl.cf then 0x10 else 0) ∧
    conv fl &&& 0x80 = (if fl.zf then 0x80 else 0) ∧ conv fl &&& 0x10 = (if fl.cf then 0x10 else 0) := by
  obtain ⟨cf, pf, af, zf, sf, of⟩ := fl
  cases cf <;> cases af <;> cases zf <;> simp [conv]

theorem toNat_setSz_d (s : St β) (j v : Nat) (hj : j < s.r.size) : (get (setSz s .d j v) j).toNat = v % 2 ^ 32 := by
  simp only [setSz]
  rw [get_set_eq _ _ _ hj, BitVec.toNat_ofNat]
  omega

set_option maxRecDepth 4000 in
/-- value written by a 32-bit `op r, imm` (not `cmp`) -/
theorem step_aluI_d (B : BusOps β) (s s1 : St β) (op : AluOp) (d : Nat) (imm : List Nat) (sx8 : Bool) (len : Nat)
    (hop : (op == .cmp) = false) (hd : d < s.r.size) (h : step B s (.aluI op .d d imm sx8) len = .ok s1) :
    (get s1 d).toNat = (aluOp op 32 ((get s d).toNat % 2 ^ 32)
      ((if sx8 then (if immLE s imm ≥ 128 then 2 ^ 32 - 256 + immLE s imm else immLE s imm) else immLE s imm) % 2 ^ 32) s.fl).1 % 2 ^ 32 := by
  simp only [step, hop, bitsOf, Bool.false_eq_true, if_false] at h
  injection h with h
  have hr := congrArg St.r h
  simp only [] at hr
  unfold get
  rw [← hr]
  show (get (setSz ({ s with pc := s.pc + len } : St β) .d d _) d).toNat = _
  rw [toNat_setSz_d ({ s with pc := s.pc + len } : St β) _ _ hd]
  have e1 : getSz ({ s with pc := s.pc + len } : St β) .d d = (get s d).toNat % 2 ^ 32 := rfl
  have e2 : immLE ({ s with pc := s.pc + len } : St β) imm = immLE s imm := rfl
  have e3 : (Size.d == Size.q) = false := rfl
  simp only [e1, e2, e3, Bool.false_and, Bool.false_eq_true, if_false]
  rfl

set_option maxRecDepth 4000 in
/-- value written by a 32-bit `op r, r'` (not `cmp`) -/
theorem step_alu_d (B : BusOps β) (s s1 : St β) (op : AluOp) (d src len : Nat)
    (hop : (op == .cmp) = false) (hd : d < s.r.size) (h : step B s (.alu op .d d src) len = .ok s1) :
    (get s1 d).toNat = (aluOp op 32 ((get s d).toNat % 2 ^ 32) ((get s src).toNat % 2 ^ 32) s.fl).1 % 2 ^ 32 := by
  simp only [step, hop, bitsOf, Bool.false_eq_true, if_false] at h
  injection h with h
  have hr := congrArg St.r h
  simp only [] at hr
  unfold get
  rw [← hr]
  show (get (setSz ({ s with pc := s.pc + len } : St β) .d d _) d).toNat = _
  rw [toNat_setSz_d ({ s with pc := s.pc + len } : St β) _ _ hd]
  rfl

theorem immLE_4 (t : St β) (a b c d : Nat) (ha : a < 256) (hb : b < 256) (hc : c < 256) (hd : d < 256) :
    immLE t [a, b, c, d] = a + 256 * (b + 256 * (c + 256 * (d + 256 * 0))) := by
  unfold immLE; simp only [List.foldr, tokVal_small t a ha, tokVal_small t b hb, tokVal_small t c hc, tokVal_small t d hd]

theorem and_mod_lt (a m : Nat) (hm : m < 2 ^ 32) : (a &&& m) % 2 ^ 32 = a &&& m :=
  Nat.mod_eq_of_lt (Nat.lt_of_le_of_lt Nat.and_le_right hm)

/-- `pushf ; pop r`: the RFLAGS image in `r`; the host stack is as before -/
theorem step_pushf_pop (B : BusOps β) {s s1 s2 : St β} {r l1 l2 : Nat} (hr : r < s.r.size)
    (h1 : step B s .pushf l1 = .ok s1) (h2 : step B s1 (.pop r) l2 = .ok s2) :
    (get s2 r).toNat = flagsWord s.fl ∧ Keeps s s2 r := by
  cases Except.ok.inj h1
  cases Except.ok.inj h2
  refine ⟨?_, fun j hj => get_set_ne _ _ _ _ hj, rfl, rfl, size_set _ _ _⟩
  rw [get_set_eq _ _ _ (by exact hr), BitVec.toNat_ofNat]
  obtain ⟨cf, pf, af, zf, sf, of⟩ := s.fl
  cases cf <;> cases pf <;> cases af <;> cases zf <;> cases sf <;> cases of <;> decide

/-- a 32-bit `and r, imm` whose immediate amounts to `m`: the value written, and the frame -/
theorem step_andI_d (B : BusOps β) {s s1 : St β} {d len : Nat} {imm : List Nat} {sx8 : Bool} (m : Nat) (hm32 : m < 2 ^ 32)
    (hd : d < s.r.size)
    (hm : (if sx8 then (if immLE s imm ≥ 128 then 2 ^ 32 - 256 + immLE s imm else immLE s imm) else immLE s imm) % 2 ^ 32 = m)
    (h : step B s (.aluI .and .d d imm sx8) len = .ok s1) :
    (get s1 d).toNat = (get s d).toNat % 2 ^ 32 &&& m ∧ Keeps s s1 d :=
  ⟨(hm ▸ step_aluI_d B s s1 .and d imm sx8 len rfl hd h).trans (and_mod_lt _ m hm32), keeps_step B s s1 _ _ d h rfl rfl⟩

/-- the flag conversion: rax keeps its second byte and `keep` of its low byte and gains `conv` of the host flags under `take` -/
theorem flag_pipe (B : BusOps β) (keep take : Nat) (hk : keep < 256) (ht : take < 256)
    (o1 o2 o3 o4 o5 o6 o7 o8 o9 e : Nat) (s s' : St β) (hsz : s.r.size = 16)
    (hex : execList B e [(o1, .pushf), (o2, .pop 6), (o3, .aluI .and .d 6 [81] true), (o4, .sh32 .shl 6 1),
      (o5, .aluI .add .d 6 [14] true), (o6, .aluI .and .d 6 [240, 0, 0, 0] false), (o7, .aluI .and .d 0 [keep, 255, 0, 0] false),
      (o8, .aluI .and .d 6 [take, 0, 0, 0] false), (o9, .alu .or .d 0 6)] s = .ok s') :
    (get s' 0).toNat = (((get s 0).toNat % 2 ^ 32) &&& (keep + 0xff00)) ||| (conv s.fl &&& take) ∧
    (∀ j, 0 ≠ j → 6 ≠ j → get s' j = get s j) ∧ s'.bus = s.bus ∧ s'.stack = s.stack ∧ s'.r.size = 16 := by
  obtain ⟨s1, h1, hex⟩ := execList_cons B _ _ _ _ _ _ hex
  obtain ⟨s2, h2, hex⟩ := execList_cons B _ _ _ _ _ _ hex
  obtain ⟨s3, h3, hex⟩ := execList_cons B _ _ _ _ _ _ hex
  obtain ⟨s4, h4, hex⟩ := execList_cons B _ _ _ _ _ _ hex
  obtain ⟨s5, h5, hex⟩ := execList_cons B _ _ _ _ _ _ hex
  obtain ⟨s6, h6, hex⟩ := execList_cons B _ _ _ _ _ _ hex
  obtain ⟨s7, h7, hex⟩ := execList_cons B _ _ _ _ _ _ hex
  obtain ⟨s8, h8, hex⟩ := execList_cons B _ _ _ _ _ _ hex
  obtain ⟨s9, h9, hex⟩ := execList_cons B _ _ _ _ _ _ hex
  cases execList_nil B _ _ _ hex
  -- rsi: the RFLAGS image, then ZF, AF, CF moved to bits 7, 5, 4; `k6` is the frame of these steps together
  obtain ⟨v2, k2⟩ := step_pushf_pop B (by omega) h1 h2
  obtain ⟨v3, k3⟩ := step_andI_d B 81 (by decide) (by rw [k2.size]; omega) (by rw [immLE_single _ _ (by decide)]; rfl) h3
  have k3 := k2.trans k3
  have v4 : (get s4 6).toNat = (get s3 6).toNat % 2 ^ 32 * 2 ^ 1 % 2 ^ 32 % 2 ^ 32 :=
    step_sh32_lit B s3 s4 .shl 6 1 _ (by decide) (by rw [k3.size]; omega) h4
  have k4 := k3.trans (keeps_step B s3 s4 _ _ 6 h4 rfl rfl)
  have v5 : (get s5 6).toNat = ((get s4 6).toNat % 2 ^ 32 + 14 + 0) % 2 ^ 32 % 2 ^ 32 := by
    have := step_aluI_d B s4 s5 .add 6 [14] true _ rfl (by rw [k4.size]; omega) h5
    rw [immLE_single _ _ (by decide)] at this
    exact this
  have k5 := k4.trans (keeps_step B s4 s5 _ _ 6 h5 rfl rfl)
  obtain ⟨v6, k6⟩ := step_andI_d B 240 (by decide) (by rw [k5.size]; omega)
    (by rw [immLE_4 _ _ _ _ _ (by decide) (by decide) (by decide) (by decide)]; rfl) h6
  have k6 := k5.trans k6
  have x6 : (get s6 6).toNat = conv s.fl := by
    rw [v6, v5, v4, v3, v2]
    generalize s.fl = fl
    obtain ⟨cf, pf, af, zf, sf, of⟩ := fl
    cases cf <;> cases pf <;> cases af <;> cases zf <;> cases sf <;> cases of <;> decide
  -- the masks, and the merge into rax
  obtain ⟨v7, k7⟩ := step_andI_d B (keep + 0xff00) (by omega) (by rw [k6.size]; omega)
    (by rw [immLE_4 _ _ _ _ _ hk (by decide) (by decide) (by decide), if_neg Bool.false_ne_true]; omega) h7
  obtain ⟨v8, k8⟩ := step_andI_d B take (by omega) (by rw [k7.size, k6.size]; omega)
    (by rw [immLE_4 _ _ _ _ _ ht (by decide) (by decide) (by decide), if_neg Bool.false_ne_true]; omega) h8
  have v9 : (get s' 0).toNat = ((get s8 0).toNat % 2 ^ 32 ||| (get s8 6).toNat % 2 ^ 32) % 2 ^ 32 :=
    step_alu_d B s8 s' .or 0 6 _ rfl (by rw [k8.size, k7.size, k6.size]; omega) h9
  have k9 := keeps_step B s8 s' _ _ 0 h9 rfl rfl
  rw [k6.regs 0 (by decide)] at v7
  rw [k7.regs 6 (by decide), x6, Nat.mod_eq_of_lt (Nat.lt_trans (conv_lt s.fl) (by decide))] at v8
  refine ⟨?_, fun j h0 h6 => by rw [k9.regs j h0, k8.regs j h6, k7.regs j h0, k6.regs j h6], by rw [k9.bus, k8.bus, k7.bus, k6.bus],
    by rw [k9.stack, k8.stack, k7.stack, k6.stack], by rw [k9.size, k8.size, k7.size, k6.size]; exact hsz⟩
  have b1 : (get s 0).toNat % 2 ^ 32 &&& (keep + 0xff00) < 2 ^ 32 := Nat.lt_of_le_of_lt Nat.and_le_right (by omega)
  have b2 : conv s.fl &&& take < 2 ^ 32 := Nat.lt_of_le_of_lt Nat.and_le_right (by omega)
  rw [v9, k8.regs 0 (by decide), v7, v8, Nat.mod_eq_of_lt b1, Nat.mod_eq_of_lt b2, Nat.mod_eq_of_lt (Nat.or_lt_two_pow b1 b2)]

/-- low 16 bits of `(x &&& m) ||| y` for a 32-bit mask `m` = `0xff00 + keep` and a byte `y`, with `x` seen as (hi, lo) -/
theorem pipe_low16 (x keep y hi lo : Nat) (hk : keep < 256) (hy : y < 256) (hlo : lo < 256) (hhi : hi < 256)
    (hx : x % 65536 = hi * 256 + lo) : ((x % 2 ^ 32 &&& (keep + 0xff00)) ||| y) % 65536 = hi * 256 + ((lo &&& keep) ||| y) := by
  have e1 : (65536 : Nat) = 2 ^ 16 := rfl
  rw [e1, Nat.or_mod_two_pow, Nat.and_mod_two_pow]
  have h1 : x % 2 ^ 32 % 2 ^ 16 = hi * 256 + lo := by rw [← hx]; omega
  have h2 : (keep + 0xff00) % 2 ^ 16 = 255 * 256 + keep := by omega
  have h3 : y % 2 ^ 16 = 0 * 256 + y := by omega
  rw [h1, h2, pack_and _ _ _ _ hlo hk, h3, pack_or _ _ _ _ (Nat.lt_of_le_of_lt Nat.and_le_left hlo) hy]
  rw [and_255 hi hhi, Nat.or_zero]

end GbVerif.X86
