import GbVerif.Proofs.PpuInterleave
import GbVerif.Model.Ppu
import GbVerif.Spec.Frame
/-!
C15 stage (i): consequences of `interleave_eq`, the flip multiply trick (all 256 bytes, kernel-checked)
and tile addressing.
-/
namespace GbVerif.PpuBits
open GbVerif.Ppu GbVerif.FrameSpec GbVerif.Enum

theorem bit_lt (v k : Nat) : bit v k < 2 := Nat.mod_lt _ (by decide)

theorem digit_lt (l h k : Nat) : digit l h k < 4 := by
  have := bit_lt l k; have := bit_lt h k; unfold digit; omega

theorem interleave_lt' (l h : Nat) : interleave l h < 65536 := Nat.mod_lt _ (by decide)

theorem interleave_lt (l h : Nat) (hl : l < 256) (hh : h < 256) : interleave l h < 65536 := interleave_lt' l h

/-- colour index of column `c` (0 = leftmost, i.e. bit 7) of a tile row given its two bit planes -/
def rowColour (low high c : Nat) : Nat := bit low (7 - c) + 2 * bit high (7 - c)

/-- what the pipeline finds in the top two bits of its 16-bit register after `c` two-bit shifts -/
def shiftedOut (row c : Nat) : Nat := ((row <<< (2 * c)) % 65536) / 16384

/-- the register holds 8 base-4 digits; `c` shifts by two bits bring digit `7 - c` to the top -/
theorem shiftedOut_eq (row c : Nat) (hc : c < 8) : shiftedOut row c = row / 4 ^ (7 - c) % 4 := by
  have e7 : (16384 : Nat) = 4 ^ (7 - c) * 4 ^ c := by rw [← Nat.pow_add, Nat.sub_add_cancel (Nat.le_of_lt_succ hc)]
  have e8 : (65536 : Nat) = 4 ^ (7 - c) * 4 * 4 ^ c := by rw [Nat.mul_right_comm, ← e7]
  rw [shiftedOut, Nat.shiftLeft_eq, Nat.pow_mul, e8, Nat.mul_mod_mul_right, e7,
    Nat.mul_div_mul_right _ _ (Nat.pow_pos (by decide)), Nat.mod_mul_right_div_self]

theorem base4_zero (d q : Nat) (hd : d < 4) : (d + 4 * q) / 4 ^ 0 % 4 = d := by
  rw [Nat.pow_zero, Nat.div_one, Nat.add_mul_mod_self_left, Nat.mod_eq_of_lt hd]

theorem base4_succ (d q j : Nat) (hd : d < 4) : (d + 4 * q) / 4 ^ (j + 1) = q / 4 ^ j := by
  rw [Nat.pow_succ', ← Nat.div_div_eq_div_mul, Nat.add_mul_div_left _ _ (by decide), Nat.div_eq_of_lt hd, Nat.zero_add]

/-- `interleaveBits` in Horner form: digit `j` is reached by `j` divisions by 4 -/
theorem interleaveBits_digit (l h j : Nat) (hj : j < 8) : interleaveBits l h / 4 ^ j % 4 = digit l h j := by
  have e : interleaveBits l h = digit l h 0 + 4 * (digit l h 1 + 4 * (digit l h 2 + 4 * (digit l h 3 + 4 * (digit l h 4 +
      4 * (digit l h 5 + 4 * (digit l h 6 + 4 * (digit l h 7 + 4 * 0))))))) := by unfold interleaveBits; omega
  rw [e]
  match j, hj with
  | 0, _ | 1, _ | 2, _ | 3, _ | 4, _ | 5, _ | 6, _ | 7, _ => simp only [base4_succ, base4_zero, digit_lt]

/-- `interleave_spec`, in the form the pipeline uses it: after `c` shifts the top two bits of
the interleaved row are the colour index of column `c` -/
theorem shiftedOut_interleave (l h c : Nat) (hl : l < 256) (hh : h < 256) (hc : c < 8) :
    shiftedOut (interleave l h) c = rowColour l h c := by
  rw [shiftedOut_eq _ c hc, interleave_eq l h hl hh, interleaveBits_digit l h _ (Nat.sub_lt_succ 7 c)]
  rfl

def reverseBits (b : Nat) : Nat :=
  128 * bit b 0 + 64 * bit b 1 + 32 * bit b 2 + 16 * bit b 3 + 8 * bit b 4 + 4 * bit b 5 + 2 * bit b 6 + bit b 7

def flipCheck (b : Nat) : Bool :=
  flipByte b == reverseBits b && flipByte b < 256 &&
  (List.range 8).all fun k => bit (flipByte b) k == bit b (7 - k)

theorem flip_all : allRange flipCheck 8 0 = true := by decide +kernel

theorem flip_eq (b : Nat) (hb : b < 256) :
    flipByte b = reverseBits b ∧ flipByte b < 256 ∧ ∀ k, k < 8 → bit (flipByte b) k = bit b (7 - k) := by
  have := forall_lt_of_allRange flipCheck 8 flip_all b hb
  simp only [flipCheck, Bool.and_eq_true, beq_iff_eq, decide_eq_true_eq, List.all_eq_true, List.mem_range] at this
  exact ⟨this.1.1, this.1.2, this.2⟩

/-- a row fetched with X flip shows column `7 - c` where the unflipped row shows column `c` -/
theorem rowColour_flip (l h c : Nat) (hl : l < 256) (hh : h < 256) (hc : c < 8) :
    rowColour (flipByte l) (flipByte h) c = rowColour l h (7 - c) := by
  unfold rowColour
  rw [(flip_eq l hl).2.2 (7 - c) (by omega), (flip_eq h hh).2.2 (7 - c) (by omega)]

/-- the registers of the model as the spec's registers -/
def toSpec (r : Ppu.Regs) : FrameSpec.Regs := ⟨r.lcdc, r.scx, r.scy, r.wx, r.wy, r.bgp, r.obp0, r.obp1⟩

/-- `& 0xfff` wraps the signed addressing mode (LCDC.4 = 0) around the 4 KiB block at 0x8800 -/
theorem tileAddr_eq (r : Ppu.Regs) (idx : Nat) (hi : idx < 256) :
    getTileAddress (Cfg.ofRegs r) idx = bgTileData (toSpec r) idx := by
  have e : getTileAddress (Cfg.ofRegs r) idx =
      (((if r.lcdc &&& 0x10 == 0 then 0x800 else 0) + idx * 16) &&& (2^12 - 1))
        + (if r.lcdc &&& 0x10 == 0 then 0x800 else 0) := rfl
  rw [e, Nat.and_two_pow_sub_one_eq_mod, NatBits.mask_clear r.lcdc 4, bgTileData, lcdcBit]
  show _ = if r.lcdc.testBit 4 = true then _ else _
  cases r.lcdc.testBit 4 <;> simp only [Bool.not_false, Bool.not_true, ↓reduceIte, Bool.false_eq_true]
  · split <;> omega
  · omega

end GbVerif.PpuBits
