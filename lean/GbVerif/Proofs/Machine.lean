import GbVerif.Proofs.SysFrame
import GbVerif.Proofs.SysBatch
/-!
One invariant for the whole machine (`Core.update Sys.dev` / `updateBlock Sys.dev`): buffer sizes, timer and DMA
bookkeeping in range, the LCD on the schedule of the delivered clocks with its frame count, time conservation, and the
pending-cycle bound — everything the whole-machine theorems (no panic in the passage of time, batch independence,
`run_frame` termination) assume holds in every state a program can reach.  The parts: `BusProofs.WF` (BusWf.lean),
`IoOk` and `DmaOk` (SysBatch.lean), `SysInv` (SysFrame.lean), `TimeInv` and `Small` (CoreStep.lean); each is carried through a
step by `update_step` / `updateBlock_step` of SysFrame.lean or by its own step lemma.
-/
namespace GbVerif.SysProofs
open GbVerif.BusProofs GbVerif.Core GbVerif.Interp GbVerif.CoreProofs

macro "wri" h:ident : tactic => `(tactic| (
  obtain ⟨x, _, $h:ident⟩ := GbVerif.CoreProofs.bind_ok_elim $h:ident
  injection $h:ident with $h:ident; subst $h:ident; exact Or.inl rfl))

def BusOk (b : Bus.State) : Prop := WF b ∧ IoOk b.io ∧ DmaOk b

theorem write_busOk {s s' : Bus.State} {a v : Nat} (ok : BusOk s) (h : Bus.write s a v = .ok s') : BusOk s' :=
  ⟨wf_write ok.1 h, write_keeps ok.2.1 ok.2.2 h⟩

def MachineOk (c : Core.State) : Prop := BusOk c.bus ∧ SysInv c ∧ TimeInv c ∧ Small c

theorem dev_busOk {b b' : Bus.State} {k : Nat} (h : Sys.dev b k = .ok b') (ok : BusOk b) : BusOk b' :=
  dev_keeps ok.1 ok.2.1 ok.2.2 h

/-- one step of `Core::update` (instruction stepping) keeps the machine invariant -/
theorem update_machineOk {c c' : Core.State} (ok : MachineOk c) (h : update Sys.dev c = .ok c') : MachineOk c' :=
  ⟨update_step (Q := fun b _ => BusOk b) (fun hw ok => write_busOk ok hw) (fun _ _ _ ok => ⟨ok.1.congr, ok.2⟩)
      (fun _ => dev_busOk) h ok.1,
    update_inv h ok.2.1, update_timeInv ok.2.2.1 h, update_small ok.2.2.2 h⟩

/-- … and so does one step with block stepping (`jit` feature), whatever the block length -/
theorem updateBlock_machineOk {c c' : Core.State} (ok : MachineOk c) (h : updateBlock Sys.dev c = .ok c') : MachineOk c' :=
  ⟨updateBlock_step (Q := fun b _ => BusOk b) (fun hw ok => write_busOk ok hw) (fun _ _ _ ok => ⟨ok.1.congr, ok.2⟩)
      (fun _ => dev_busOk) h ok.1,
    updateBlock_inv h ok.2.1, updateBlock_timeInv ok.2.2.1 h, updateBlock_small ok.2.2.2 h⟩

theorem machineOk_create (kind : Cart.Kind) (romBanks ramBytes : Nat) (rom : Nat → Nat) (regs : Regs) (h : 2 ≤ romBanks)
    (hc : regs.cycles = 0) :
    MachineOk { regs := regs, bus := Bus.create kind romBanks ramBytes rom } := by
  refine ⟨⟨wf_create kind romBanks ramBytes rom h, ⟨by show (0 : Nat) < 65536; decide, by show (0 : Nat) < 65536; decide⟩,
    fun _ _ he => by cases he⟩, sysInv_create kind romBanks ramBytes rom regs, ?_, ?_⟩
  · show 0 + 4 * regs.cycles = 4 * 0
    omega
  · exact ⟨by show regs.cycles ≤ 5; omega, fun _ => hc⟩

end GbVerif.SysProofs
