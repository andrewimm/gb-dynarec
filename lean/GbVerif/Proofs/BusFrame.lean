import GbVerif.Proofs.BusDma
/-!
Store/load and frame lemmas for the bus model: a byte stored into one RAM region is read back at its address and is
seen at no other address of the 64 KiB space (one lemma per region; the OAM case is in `BusDma.lean`).
-/
namespace GbVerif.BusProofs
open GbVerif.Bus

theorem vram_write_read {s : State} (wf : WF s) {i a0 : Nat} (v : Nat) (hi : i < 0x2000) (h0 : a0 = 0x8000 + i) (a : Nat) :
    read { s with vram := s.vram.setIfInBounds i v } a = if a = a0 then .ok v else read s a := by
  subst h0
  by_cases ho : 0x8000 ≤ a ∧ a < 0xa000
  · exact read_sib v (by rw [wf.vram]; exact hi) ho.1 (read_vram_wf (wf.congr (hv := by simp)) ho.1 ho.2)
      (read_vram_wf wf ho.1 ho.2)
  · rw [if_neg (by omega)]; exact read_congr (hvram := fun h => absurd h ho)

theorem wram_write_read {s : State} (wf : WF s) {i a0 : Nat} (v : Nat) (hi : i < 0x2000) (h0 : a0 = 0xc000 + i) (a : Nat) :
    read { s with wram := s.wram.setIfInBounds i v } a = if a = a0 then .ok v else read s a := by
  subst h0
  by_cases ho : 0xc000 ≤ a ∧ a < 0xe000
  · exact read_sib v (by rw [wf.wram]; exact hi) ho.1 (read_wram_wf (wf.congr (hw := by simp)) ho.1 ho.2)
      (read_wram_wf wf ho.1 ho.2)
  · rw [if_neg (by omega)]; exact read_congr (hwram := fun h => absurd h ho)

/-- (addresses are 16 bits: the HRAM arm of the ladder is its last) -/
theorem hram_write_read {s : State} (wf : WF s) {i a0 : Nat} (v : Nat) (hi : i < 127) (h0 : a0 = 0xff80 + i) (a : Nat)
    (ha : a < 65536) : read { s with hram := s.hram.setIfInBounds i v } a = if a = a0 then .ok v else read s a := by
  subst h0
  by_cases ho : 0xff80 ≤ a ∧ a < 0xffff
  · exact read_sib v (by rw [wf.hram]; exact hi) ho.1 (read_hram_wf (wf.congr (hh := by simp)) ho.1 ho.2)
      (read_hram_wf wf ho.1 ho.2)
  · rw [if_neg (by omega)]; exact read_congr (hhram := fun h => absurd ⟨h.1, by omega⟩ ho)

/-- cartridge RAM: address → index through the current RAM bank -/
theorem cram_write_read {s : State} (wf : WF s) {a0 : Nat} (v : Nat) (h0 : 0xa000 ≤ a0 ∧ a0 < 0xc000)
    (hi : s.cramIdx a0 < s.cram.size) (a : Nat) :
    read { s with cram := s.cram.setIfInBounds (s.cramIdx a0) v } a = if a = a0 then .ok v else read s a := by
  by_cases ho : 0xa000 ≤ a ∧ a < 0xc000
  · rw [read_cram_wf (s := { s with cram := _ }) wf.congr ho.1 ho.2, read_cram_wf wf ho.1 ho.2]
    show Except.ok (if s.cramIdx a < (s.cram.setIfInBounds (s.cramIdx a0) v).size
      then (s.cram.setIfInBounds (s.cramIdx a0) v).getD (s.cramIdx a) 0 else 0xff) = _
    rw [Array.size_setIfInBounds, getD_sib]
    by_cases e : a = a0
    · subst e; rw [if_pos rfl, if_pos hi, if_pos ⟨rfl, hi⟩]
    · have hidx : ¬ (s.cramIdx a0 = s.cramIdx a ∧ s.cramIdx a0 < s.cram.size) := by
        simp only [State.cramIdx]; omega
      rw [if_neg e, if_neg hidx]
  · rw [if_neg (by omega)]; exact read_congr (hcram := fun h => absurd h ho)

theorem getByte_set_ie (io : Io) (x y a : Nat) : Io.getByte { io with ie := x, ieUpper := y } a = Io.getByte io a := by
  unfold Io.getByte; split <;> rfl

theorem ie_write_frame {s : State} (x y : Nat) (a : Nat) (hne : a ≠ 0xffff) :
    read { s with io := { s.io with ie := x, ieUpper := y } } a = read s a :=
  read_congr (hio := fun _ => ⟨rfl, getByte_set_ie s.io x y a⟩) (hie := fun h => absurd h hne)

theorem and_1f_or_e0 (v : Nat) (hv : v < 256) : (v &&& 0x1f) ||| (v &&& 0xe0) = v := by
  rw [← Nat.and_or_distrib_left]
  exact (Nat.and_two_pow_sub_one_eq_mod v 8).trans (Nat.mod_eq_of_lt hv)

theorem read_rom_congr {s s' : State} (hc : s'.cart = s.cart) (hr : s'.rom = s.rom) (hl : s'.romLen = s.romLen)
    (a : Nat) (ha : a < 0x8000) : read s' a = read s a := by
  by_cases h : a < 0x4000
  · rw [read_rom0 s' a h, read_rom0 s a h, hr, hl]
  · rw [read_romx s' a (by omega) ha, read_romx s a (by omega) ha, hc, hr, hl]

end GbVerif.BusProofs
