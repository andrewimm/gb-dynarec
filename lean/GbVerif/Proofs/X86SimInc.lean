import GbVerif.Proofs.X86SimAlu2
/-
C01, the data side: INC r / DEC r for the seven registers.  The register write and the flag conversion are separated:
after `inc|dec r8` the host state is related to `setReg g r v`, and the conversion then acts on that register file's AF.
-/
namespace GbVerif.X86
open GbVerif.JitCycles GbVerif.Interp
variable {β : Type}

theorem fInc_eq (f1 : Nat) (z h : Bool) :
    ((f1 &&& 0x1f) ||| ((if z then 0x80 else 0) + (if h then 0x20 else 0))) = (((f1 &&& 0x1f) ||| (if h then 0x20 else 0)) ||| (if z then 0x80 else 0)) := by
  cases z <;> cases h <;> simp [Nat.or_assoc]

theorem fDec_eq (f1 : Nat) (z h : Bool) :
    bitop .or ((f1 &&& 0x1f) ||| ((if z then 0x80 else 0) + (if h then 0x20 else 0))) 64 =
      ((((f1 &&& 0x1f) ||| (if h then 0x20 else 0)) ||| 0x40) ||| (if z then 0x80 else 0)) := by
  cases z <;> cases h <;> simp [bitop, Nat.or_assoc]

/-- the flag part of the interpreter's INC / DEC on a register file `g1` (after the register write) -/
theorem incFlags_pack (g1 : Regs) (h : Bool) (x : Nat) (neg : Bool) :
    (testZero (if neg then setNeg (testHalf (applyMask g1 0xe0) h) else testHalf (applyMask g1 0xe0) h) x).af =
      getReg g1 .A * 256 + ((((g1.af % 256 &&& 0x1f) ||| (if h then 0x20 else 0)) ||| (if neg then 0x40 else 0)) ||| (if x == 0 then 0x80 else 0)) := by
  have i0 : (applyMask g1 0xe0).af = getReg g1 .A * 256 + (g1.af % 256 &&& 0x1f) :=
    applyMask_pack g1 _ _ 0xe0 (getReg_lt g1 .A) (Nat.mod_lt _ (by decide)) (af_split g1)
  have c0 : g1.af % 256 &&& 0x1f < 256 := Nat.lt_of_le_of_lt Nat.and_le_right (by decide)
  have i1 := testHalf_pack _ _ _ h c0 i0
  have c1 := or_bit_lt _ h 0x20 c0 (by decide)
  cases neg
  · simp only [Bool.false_eq_true, if_false, Nat.or_zero]
    exact testZero_pack _ _ _ x c1 i1
  · simp only [if_true]
    have i2 := setNeg_pack _ _ _ c1 i1
    exact testZero_pack _ _ _ x (Nat.or_lt_two_pow (n := 8) c1 (by decide)) i2

theorem sameButAf_incFlags (g1 : Regs) (h : Bool) (x : Nat) (neg : Bool) :
    SameButAf g1 (testZero (if neg then setNeg (testHalf (applyMask g1 0xe0) h) else testHalf (applyMask g1 0xe0) h) x) := by
  cases neg
  · exact ((sameButAf_applyMask g1 _).trans (sameButAf_testHalf _ _)).trans (sameButAf_testZero _ _)
  · exact (((sameButAf_applyMask g1 _).trans (sameButAf_testHalf _ _)).trans (sameButAf_orF _ _)).trans (sameButAf_testZero _ _)

def opcodeInc8 (r : Reg8) : Nat := 0x04 + 8 * r8code r
def opcodeDec8 (r : Reg8) : Nat := 0x05 + 8 * r8code r

theorem table_incdec8 (r : Reg8) (b1 b2 : Nat) :
    (decodeCode (Gen.emitOp (opcodeInc8 r)) = some (((0, Instr.incdec8 false (hostR8 r)) :: pipeAt (aluOff 2) 31 224) ++ [(31, addIp 1), (35, addCy 1)]) ∧
    bytesOf (Gen.emitOp (opcodeInc8 r)) = 39 ∧ Gen.decode (opcodeInc8 r) b1 b2 = (.Increment8 r, 1, 4)) ∧
    (decodeCode (Gen.emitOp (opcodeDec8 r)) = some ((((0, Instr.incdec8 true (hostR8 r)) :: pipeAt (aluOff' 2) 31 224) ++ [(31, Instr.alu8i AluOp.or (R8.lo 0) 64)]) ++ [(33, addIp 1), (37, addCy 1)]) ∧
    bytesOf (Gen.emitOp (opcodeDec8 r)) = 41 ∧ Gen.decode (opcodeDec8 r) b1 b2 = (.Decrement8 r, 1, 4)) := by
  refine ⟨⟨?_, ?_, by cases r <;> rfl⟩, ⟨?_, ?_, by cases r <;> rfl⟩⟩ <;> revert r <;> exact forall_reg8 (by decide +kernel)

/-- `inc|dec r8` on the host location of a guest register: the register write, and the host flags Z and A -/
theorem step_incdec8_sim (B : BusOps β) (dec : Bool) (r : Reg8) (g : Regs) (st s1 : St β) (len : Nat) (hs : Sim g st)
    (h : step B st (.incdec8 dec (hostR8 r)) len = .ok s1) :
    Sim (setReg g r (if dec then u8 (getReg g r + 256 - 1) else u8 (getReg g r + 1))) s1 ∧ Untouched st s1 ∧
    s1.fl.zf = ((if dec then u8 (getReg g r + 256 - 1) else u8 (getReg g r + 1)) == 0) ∧
    s1.fl.af = (if dec then decide (getReg g r % 16 < 1 % 16) else decide (getReg g r % 16 + 1 % 16 ≥ 16)) := by
  have hu : Untouched st s1 := untouched_step B h rfl (fun e => hostR8_ne14 r (Option.some.inj e))
  have e1 : step B st (.incdec8 dec (hostR8 r)) len =
      .ok { (set8 ({ st with pc := st.pc + len } : St β) (hostR8 r) (aluOp (if dec then .sub else .add) 8 (get8 st (hostR8 r)) 1 st.fl).1) with
            fl := { (aluOp (if dec then .sub else .add) 8 (get8 st (hostR8 r)) 1 st.fl).2 with cf := st.fl.cf } } := rfl
  rw [e1] at h
  injection h with h
  have ha := getReg_lt g r
  rw [get8_sim hs r] at h
  cases dec
  · simp only [Bool.false_eq_true, if_false] at h ⊢
    have hv : (aluOp .add 8 (getReg g r) 1 st.fl).1 = u8 (getReg g r + 1) := by
      show (getReg g r + 1 + 0) % 2 ^ 8 = (getReg g r + 1) % 256
      omega
    refine ⟨?_, hu, ?_, ?_⟩
    · rw [← h, hv]; exact sim_fl (set8_sim (sim_pc hs _) r _ (Nat.mod_lt _ (by decide))) _
    · rw [← h]; show ((getReg g r + 1 + 0) % 2 ^ 8 == 0) = _; rw [← hv]; rfl
    · rw [← h]; show decide (getReg g r % 16 + 1 % 16 + 0 ≥ 16) = _; simp only [Nat.add_zero]
  · simp only [if_true] at h ⊢
    have hv : (aluOp .sub 8 (getReg g r) 1 st.fl).1 = u8 (getReg g r + 256 - 1) := by
      show (getReg g r + 2 ^ 8 + 2 ^ 8 - 1 - 0) % 2 ^ 8 = (getReg g r + 256 - 1) % 256
      omega
    refine ⟨?_, hu, ?_, ?_⟩
    · rw [← h, hv]; exact sim_fl (set8_sim (sim_pc hs _) r _ (Nat.mod_lt _ (by decide))) _
    · rw [← h]; show ((getReg g r + 2 ^ 8 + 2 ^ 8 - 1 - 0) % 2 ^ 8 == 0) = _; rw [← hv]; rfl
    · rw [← h]; show decide (getReg g r % 16 < 1 % 16 + 0) = _; simp only [Nat.add_zero]

/-- the body of INC r: `inc r8`, the flag conversion keeping 0x1f of F and taking Z and H -/
theorem inc_body (B : BusOps β) (r : Reg8) (o : Nat → Nat) (e : Nat) (g : Regs) (st s2 : St β) (hs : Sim g st)
    (hex : execList B e ((o 0, .incdec8 false (hostR8 r)) :: pipeAt o 31 224) st = .ok s2) :
    Sim (testZero (testHalf (applyMask (setReg g r (u8 (getReg g r + 1))) 0xe0) (((getReg g r &&& 0x0f) + (1 &&& 0x0f)) &&& 0x10 != 0)) (u8 (getReg g r + 1))) s2 ∧
    Untouched st s2 := by
  obtain ⟨s1, h1, hex⟩ := execList_cons B _ _ _ _ _ _ hex
  obtain ⟨hs1', hu1, hz', ha'⟩ := step_incdec8_sim B false r g st s1 _ hs h1
  have hs1 : Sim (setReg g r (u8 (getReg g r + 1))) s1 := hs1'
  have hz : s1.fl.zf = (u8 (getReg g r + 1) == 0) := hz'
  have ha : s1.fl.af = decide (getReg g r % 16 + 1 % 16 ≥ 16) := ha'
  have h2 : (((getReg g r &&& 0x0f) + (1 &&& 0x0f)) &&& 0x10 != 0) = decide (getReg g r % 16 + 1 % 16 ≥ 16) :=
    halfAdd_eq (getReg g r) 1 0 (by decide)
  have ⟨q1, q2⟩ := pipe_tail_sim B (keep := 31) (take := 224) (s3 := s2) (by decide) (by decide) o (alTail_nil B e) hs1
    (sameButAf_incFlags _ _ _ false)
    (incFlags_pack _ (((getReg g r &&& 0x0f) + (1 &&& 0x0f)) &&& 0x10 != 0) (u8 (getReg g r + 1)) false)
    (by rw [(conv_take _).1, hz, ha, h2]; simp only [Bool.false_eq_true, if_false, Nat.or_zero]; exact fInc_eq _ _ _)
    (by rw [List.append_nil]; exact hex)
  exact ⟨q1, hu1.trans q2⟩

/-- the body of DEC r: `dec r8`, the flag conversion keeping 0x1f of F and taking Z and H, `or al, 0x40` -/
theorem dec_body (B : BusOps β) (r : Reg8) (o : Nat → Nat) (e : Nat) (g : Regs) (st s3 : St β) (hs : Sim g st)
    (hex : execList B e (((o 0, .incdec8 true (hostR8 r)) :: pipeAt o 31 224) ++ [(o 10, .alu8i .or (.lo 0) 64)]) st = .ok s3) :
    Sim (testZero (setNeg (testHalf (applyMask (setReg g r (u8 (getReg g r + 256 - 1))) 0xe0) (u8 ((getReg g r &&& 0x0f) + 256 - (1 &&& 0x0f)) &&& 0x10 != 0))) (u8 (getReg g r + 256 - 1))) s3 ∧
    Untouched st s3 := by
  rw [List.cons_append] at hex
  obtain ⟨s1, h1, hex2⟩ := execList_cons B _ _ _ _ _ _ hex
  obtain ⟨hs1', hu1, hz', ha'⟩ := step_incdec8_sim B true r g st s1 _ hs h1
  have hs1 : Sim (setReg g r (u8 (getReg g r + 256 - 1))) s1 := hs1'
  have hz : s1.fl.zf = (u8 (getReg g r + 256 - 1) == 0) := hz'
  have ha : s1.fl.af = decide (getReg g r % 16 < 1 % 16) := ha'
  have ⟨q1, q2⟩ := pipe_al_sim B .or (Or.inr (Or.inl rfl)) 31 224 64 (by decide) (by decide) (by decide) o e hs1
    (sameButAf_incFlags _ _ _ true)
    (incFlags_pack _ (u8 ((getReg g r &&& 0x0f) + 256 - (1 &&& 0x0f)) &&& 0x10 != 0) (u8 (getReg g r + 256 - 1)) true)
    (by rw [(conv_take _).1, hz, ha, halfSub0_eq (getReg g r) 1]; exact fDec_eq _ _ _) hex2
  exact ⟨q1, hu1.trans q2⟩

/-- **INC r** (7 registers): all states -/
theorem sim_inc8 (r : Reg8) (b1 b2 : Nat) : Simulates (opcodeInc8 r) b1 b2 :=
  Simulates.intro (table_incdec8 r b1 b2).1 rfl (by decide) (by decide) rfl fun B g _ _ hs _ _ hex =>
    ⟨_, fun _ => rfl, inc_body B r (aluOff 2) 31 g _ _ hs hex⟩

/-- **DEC r** (7 registers): all states -/
theorem sim_dec8 (r : Reg8) (b1 b2 : Nat) : Simulates (opcodeDec8 r) b1 b2 :=
  Simulates.intro (table_incdec8 r b1 b2).2 rfl (by decide) (by decide) rfl fun B g _ _ hs _ _ hex =>
    ⟨_, fun _ => rfl, dec_body B r (aluOff' 2) 33 g _ _ hs hex⟩

end GbVerif.X86
