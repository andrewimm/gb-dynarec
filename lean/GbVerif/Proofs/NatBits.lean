/-! Small `Nat` bitwise helper lemmas (core only). -/
namespace GbVerif.NatBits

/-! masks of the form `2^n - 1` -/
theorem and_ffff (c : Nat) : c &&& 0xffff = c % 65536 := Nat.and_two_pow_sub_one_eq_mod c 16
theorem and_3fff (a : Nat) : a &&& 0x3fff = a % 0x4000 := Nat.and_two_pow_sub_one_eq_mod a 14
theorem and_1fff (a : Nat) : a &&& 0x1fff = a % 0x2000 := Nat.and_two_pow_sub_one_eq_mod a 13
theorem and_fff (a : Nat) : a &&& 0xfff = a % 0x1000 := Nat.and_two_pow_sub_one_eq_mod a 12
theorem and_ff (a : Nat) : a &&& 0xff = a % 0x100 := Nat.and_two_pow_sub_one_eq_mod a 8
theorem and_7f (a : Nat) : a &&& 0x7f = a % 0x80 := Nat.and_two_pow_sub_one_eq_mod a 7
theorem and_3 (c : Nat) : c &&& 3 = c % 4 := Nat.and_two_pow_sub_one_eq_mod c 2

theorem and_const_mod (v c n : Nat) (hc : c < 2^n) : v &&& c = (v % 2^n) &&& c := by
  have h1 : v &&& c ≤ c := Nat.and_le_right
  have h := @Nat.and_mod_two_pow v c n
  rw [Nat.mod_eq_of_lt (by omega), Nat.mod_eq_of_lt hc] at h
  exact h

theorem testBit_mod (v i n : Nat) (h : i < n) : v.testBit i = (v % 2^n).testBit i := by
  rw [Nat.testBit_mod_two_pow]; simp [h]

theorem or_eq_add_of_and_eq_zero (x : Nat) : ∀ y, x &&& y = 0 → x ||| y = x + y := by
  induction x using Nat.strongRecOn with
  | ind x ih =>
    intro y h
    by_cases hx : x = 0
    · subst hx; simp
    · have hd := ih (x / 2) (by omega) (y / 2) (by rw [← Nat.and_div_two, h])
      rw [← Nat.or_div_two] at hd
      have hm : ¬ (x % 2 = 1 ∧ y % 2 = 1) := fun hc => by have := Nat.and_mod_two_eq_one.2 hc; omega
      have ho := @Nat.or_mod_two_eq_one x y
      omega

theorem testBit_high {x i : Nat} (hx : x < 16) (hi : 4 ≤ i) : x.testBit i = false :=
  Nat.testBit_lt_two_pow (Nat.lt_of_lt_of_le hx (Nat.pow_le_pow_right (n := 2) (by decide) hi))

/-- `!v` on a `u8` -/
theorem testBit_xor_ff_mod (v i : Nat) (hi : i < 8) : ((v ^^^ 0xff) % 256).testBit i = !v.testBit i := by
  rw [show 256 = 2^8 from rfl, Nat.testBit_mod_two_pow, Nat.testBit_xor, show 0xff = 2^8 - 1 from rfl,
    Nat.testBit_two_pow_sub_one]
  simp [hi]

theorem and_two_pow (v k : Nat) : v &&& 2 ^ k = if v.testBit k then 2 ^ k else 0 := by
  apply Nat.eq_of_testBit_eq
  intro j
  rw [Nat.testBit_and, Nat.testBit_two_pow]
  by_cases h : k = j
  · subst h; cases hv : v.testBit k <;> simp [Nat.testBit_two_pow_self]
  · cases hv : v.testBit k <;> simp [h, Nat.testBit_two_pow_of_ne h]

theorem mask_clear (v k : Nat) : (v &&& 2 ^ k == 0) = !v.testBit k := by
  rw [and_two_pow]
  cases v.testBit k
  · rfl
  · exact beq_eq_false_iff_ne.mpr (Nat.ne_of_gt (Nat.two_pow_pos k))

theorem mask_set (v k : Nat) : (v &&& 2 ^ k == 2 ^ k) = v.testBit k := by
  rw [and_two_pow]
  cases v.testBit k
  · exact beq_eq_false_iff_ne.mpr (Nat.ne_of_lt (Nat.two_pow_pos k))
  · exact beq_self_eq_true _

theorem mask_ne (v k : Nat) : (v &&& 2 ^ k != 0) = v.testBit k := by
  rw [bne, mask_clear, Bool.not_not]

end GbVerif.NatBits
