import GbVerif.Proofs.X86SimCb
import GbVerif.Proofs.X86Status
/-
C01, the data side, CB page: BIT b,r for the seven registers and the eight bits (56 encodings).  The template uses r14b
(the block's status byte) as scratch through the zero-flag idiom and leaves 0 or 0x80 there: a status of class normal.
The host code clears the low nibble of F, the interpreter keeps it: the two agree on the register files the machine can
reach (F's low nibble is always 0: every instruction that writes F clears it or copies it, POP AF masks it).
-/
namespace GbVerif.X86
open GbVerif.JitCycles GbVerif.Interp
variable {β : Type}

theorem or_mod16 {x k : Nat} (hx : x % 16 = 0) (hk : k % 16 = 0) : (x ||| k) % 16 = 0 := by
  show (x ||| k) % 2 ^ 4 = 0
  rw [Nat.or_mod_two_pow]
  show x % 16 ||| k % 16 = 0
  rw [hx, hk]; rfl

theorem and_mod16 {x : Nat} (k : Nat) (hx : x % 16 = 0) : (x &&& k) % 16 = 0 := by
  show (x &&& k) % 2 ^ 4 = 0
  rw [Nat.and_mod_two_pow]
  show x % 16 &&& k % 16 = 0
  rw [hx, Nat.zero_and]

theorem af16_orIf {g : Regs} (c : Bool) {b : Nat} (h : g.af % 16 = 0) (hb : b % 16 = 0) :
    (if c then orF g b else g).af % 16 = 0 := by
  cases c
  · exact h
  · exact or_mod16 h hb

theorem sim_scratch {g : Regs} {s s' : St β} (h : Sim g s) (hr : ∀ j, 14 ≠ j → get s' j = get s j) (hsz : s'.r.size = 16) : Sim g s' :=
  sim_setAt h 14 _ hr rfl hsz

/-- what a template that uses r14b as scratch guarantees: bus and host stack as at `st`, r14b at 0 or 0x80 (a status of class
normal) -/
def StatusScratch (st s : St β) : Prop :=
  s.bus = st.bus ∧ s.stack = st.stack ∧ (get8 s (.lo 14) = 0 ∨ get8 s (.lo 14) = 0x80)

theorem scratch_untouched {st s1 s2 : St β} (h : StatusScratch st s1) (hu : Untouched s1 s2) : StatusScratch st s2 := by
  refine ⟨hu.bus.trans h.1, hu.stack.trans h.2.1, ?_⟩
  show (get s2 14).toNat % 256 = 0 ∨ (get s2 14).toNat % 256 = 0x80
  rw [hu.r14]; exact h.2.2

theorem step_sete_ror (B : BusOps β) (s1 s2 s3 : St β) (l2 l3 : Nat) (hsz : s1.r.size = 16)
    (h2 : step B s1 (.sete (.lo 14)) l2 = .ok s2) (h3 : step B s2 (.sh8 .ror (.lo 14) 1) l3 = .ok s3) :
    (get s3 14).toNat % 256 = (if s1.fl.zf then 0x80 else 0) ∧ (∀ j, 14 ≠ j → get s3 j = get s1 j) ∧
    s3.bus = s1.bus ∧ s3.stack = s1.stack ∧ s3.r.size = 16 := by
  have k2 := keeps_step B s1 s2 _ _ 14 h2 rfl rfl
  have k3 := keeps_step B s2 s3 _ _ 14 h3 rfl rfl
  refine ⟨?_, fun j hj => (k3.regs j hj).trans (k2.regs j hj), k3.bus.trans k2.bus, k3.stack.trans k2.stack,
    (k3.size.trans k2.size).trans hsz⟩
  have v2 : get8 s2 (.lo 14) = if s1.fl.zf then 1 else 0 := by
    rw [← Except.ok.inj h2]
    exact (get8_set8_lo _ 14 _ (by show 14 < s1.r.size; omega)).trans (by cases s1.fl.zf <;> rfl)
  rw [← Except.ok.inj h3]
  show get8 (set8 _ (.lo 14) (shOp .ror 8 (get8 s2 (.lo 14)) 1 s2.fl).1) (.lo 14) = _
  rw [get8_set8_lo _ 14 _ (by show 14 < s2.r.size; rw [k2.size]; omega), v2]
  cases s1.fl.zf <;> rfl

theorem step_or_al_r14 (B : BusOps β) (s s1 : St β) (len : Nat) (hsz : s.r.size = 16)
    (h : step B s (.alu8 .or (.lo 0) (.lo 14)) len = .ok s1) :
    (get s1 0).toNat % 65536 = ((get s 0).toNat / 256 % 256) * 256 + ((get s 0).toNat % 256 ||| (get s 14).toNat % 256) ∧
    (∀ j, 0 ≠ j → get s1 j = get s j) ∧ s1.bus = s.bus ∧ s1.stack = s.stack ∧ s1.r.size = 16 := by
  have k := keeps_step B s s1 _ _ 0 h rfl rfl
  refine ⟨?_, k.regs, k.bus, k.stack, k.size.trans hsz⟩
  rw [← Except.ok.inj h]
  exact low16_set8_lo ({ s with pc := s.pc + len } : St β) 0 _ (hsz ▸ (by decide))
    (Nat.or_lt_two_pow (n := 8) (Nat.mod_lt _ (by decide)) (Nat.mod_lt _ (by decide)))

theorem low16_pack {x a f y : Nat} (hf : f < 256) (hy : y < 256) (h : x % 65536 = (a * 256 + f) % 65536) :
    x % 256 = f ∧ x / 256 % 256 * 256 + y = (a * 256 + y) % 65536 := by omega

theorem or_r14_sim (B : BusOps β) {g1 : Regs} {a f : Nat} (x : Nat) (hf : f < 256) (hpk : g1.af = a * 256 + f)
    {s s' : St β} {len : Nat} (hs : Sim g1 s) (h14 : (get s 14).toNat % 256 = if x == 0 then 0x80 else 0)
    (h : step B s (.alu8 .or (.lo 0) (.lo 14)) len = .ok s') :
    Sim (testZero g1 x) s' ∧ StatusScratch s s' := by
  obtain ⟨x4, r4, b4, k4, sz4⟩ := step_or_al_r14 B s s' _ hs.size h
  obtain ⟨hlo, hhi⟩ := low16_pack hf (or_bit_lt f (x == 0) 0x80 hf (by decide)) (hpk ▸ hs.af)
  rw [hlo, h14, hhi, ← testZero_pack g1 a f x hf hpk] at x4
  refine ⟨sim_af0 hs r4 sz4 (sameButAf_testZero g1 x) x4, b4, k4, ?_⟩
  show (get s' 14).toNat % 256 = 0 ∨ (get s' 14).toNat % 256 = 0x80
  rw [r4 14 (by decide), h14]
  cases x == 0
  · exact .inl rfl
  · exact .inr rfl

def opcodeBit (b : Fin 8) (r : Reg8) : Nat := 0x40 + 8 * b.val + r8code r

/-- `test r8, mask ; sete r14b ; ror r14b, 1 ; and al, 0x10 ; or al, 0x20 ; or al, r14b` -/
def bitBody (b : Fin 8) (r : Reg8) : List (Nat × Instr) :=
  [(0, Instr.test8i (hostR8 r) (bitMask b)), (3, Instr.sete (R8.lo 14)), (7, Instr.sh8 ShOp.ror (R8.lo 14) 1),
   (10, Instr.alu8i AluOp.and (R8.lo 0) 16), (12, Instr.alu8i AluOp.or (R8.lo 0) 32), (14, Instr.alu8 AluOp.or (R8.lo 0) (R8.lo 14))]

theorem table_bit (b : Fin 8) (r : Reg8) (b2 : Nat) :
    decodeCode (Gen.emitCb (opcodeBit b r)) = some (bitBody b r ++ [(17, addIp 2), (21, addCy 2)]) ∧
    bytesOf (Gen.emitCb (opcodeBit b r)) = 25 ∧ Gen.decode 0xcb (opcodeBit b r) b2 = (.BitTest r (bitMask b), 2, 8) := by
  rw [decode_cb]
  revert b; revert r
  exact forall_reg8 (by decide +kernel)

theorem fBit_eq (f : Nat) (h0 : f % 16 = 0) : bitop .or (bitop .and f 16) 32 = (f &&& 0x1f) ||| 0x20 := by
  show (f &&& 16) ||| 32 = _
  rw [show (0x1f : Nat) = 16 ||| 0x0f from rfl, Nat.and_or_distrib_left, and_0f, h0, Nat.or_zero]

/-- `SimulatesCb` for templates that use r14b as scratch and clear F's low nibble: from register files with that nibble
clear (all the machine reaches), the status byte is left at 0 or 0x80 (class normal) -/
def SimulatesCbF (b1 b2 : Nat) : Prop :=
  ∃ code, decodeCode (Gen.emitCb b1) = some code ∧
  ∀ (β : Type) (B : BusOps β) (g : Regs) (m : β) (fuel : Nat) (st st' : St β), Sim g st → g.af % 16 = 0 → st.pc = 0 →
    run B code (bytesOf (Gen.emitCb b1)) fuel st = .ok st' →
    ∃ g', runOp B (Gen.decode 0xcb b1 b2).1 g m (Gen.decode 0xcb b1 b2).2.1 = .ok (g', m, STATUS_NORMAL) ∧
      Sim { g' with cycles := g'.cycles + (Gen.decode 0xcb b1 b2).2.2 / 4 } st' ∧ g'.af % 16 = 0 ∧
      st'.bus = st.bus ∧ st'.stack = st.stack ∧ (get8 st' (.lo 14) = 0 ∨ get8 st' (.lo 14) = 0x80)

theorem SimulatesCbF.intro {b1 b2 : Nat} {body : List (Nat × Instr)} {o1 o2 e n c k : Nat} {op : Op}
    (htab : decodeCode (Gen.emitCb b1) = some (body ++ [(o1, addIp n), (o2, addCy c)]) ∧ bytesOf (Gen.emitCb b1) = e ∧
      Gen.decode 0xcb b1 b2 = (op, n, k))
    (hnj : noJump body = true) (hn : n < 128) (hc : c < 128) (hk : k / 4 = c)
    (hbody : ∀ {β : Type} (B : BusOps β) (g : Regs) (st s1 : St β), Sim g st → g.af % 16 = 0 → execList B o1 body st = .ok s1 →
      ∃ g1, (∀ m, runOp B op g m n = .ok (advance g1 n, m, STATUS_NORMAL)) ∧ Sim g1 s1 ∧ g1.af % 16 = 0 ∧ StatusScratch st s1) :
    SimulatesCbF b1 b2 :=
  have ⟨code, hdec, h⟩ := simulates_of_body (fun g => g.af % 16 = 0) (fun _ => True)
    (fun g' st s => g'.af % 16 = 0 ∧ StatusScratch st s)
    (fun h u => ⟨h.1, scratch_untouched h.2 u⟩) htab hnj hn hc hk fun B g st s1 hs h0 _ => hbody B g st s1 hs h0
  ⟨code, hdec, fun β B g m fuel st st' hs h0 => h β B g m fuel st st' hs h0 trivial⟩

theorem two_al (B : BusOps β) (op1 op2 : AluOp) (h1 : op1 = .and ∨ op1 = .or ∨ op1 = .xor) (h2 : op2 = .and ∨ op2 = .or ∨ op2 = .xor)
    (k1 k2 : Nat) (hk1 : k1 < 256) (hk2 : k2 < 256) (oa ob e : Nat) (g : Regs) (st s2 : St β) (hs : Sim g st)
    (hex : execList B e [(oa, .alu8i op1 (.lo 0) k1), (ob, .alu8i op2 (.lo 0) k2)] st = .ok s2) :
    (get s2 0).toNat % 65536 = getReg g .A * 256 + bitop op2 (bitop op1 (g.af % 256) k1) k2 ∧
    (∀ j, 0 ≠ j → get s2 j = get st j) ∧ s2.bus = st.bus ∧ s2.stack = st.stack ∧ s2.r.size = 16 := by
  have ⟨x, _, r⟩ := alTail_cons B h1 hk1 (alTail_cons B h2 hk2 (alTail_nil B e)) st s2 _ _ hs.size (getReg_lt g .A)
    (Nat.mod_lt _ (by decide)) (hs.af.trans (af_split g)) hex
  exact ⟨x, r⟩

theorem step_test8i_sim (B : BusOps β) (r : Reg8) (k : Nat) (hk : k < 256) {g : Regs} {st s1 : St β} {len : Nat} (hs : Sim g st)
    (h : step B st (.test8i (hostR8 r) k) len = .ok s1) :
    Sim g s1 ∧ Untouched st s1 ∧ s1.fl.zf = ((getReg g r &&& k) == 0) := by
  refine ⟨?_, untouched_step B h rfl (fun e => by cases e), ?_⟩
  all_goals
    rw [← Except.ok.inj h]
  · exact sim_fl (sim_pc hs _) _
  · show ((get8 st (hostR8 r) &&& tokVal _ k) == 0) = _
    rw [tokVal_small _ k hk, get8_sim hs r]

theorem bitFlags_pack (g : Regs) : (orF (applyMask g 0xe0) 0x20).af = getReg g .A * 256 + ((g.af % 256 &&& 0x1f) ||| 0x20) := by
  have i0 := applyMask_pack g _ _ 0xe0 (getReg_lt g .A) (Nat.mod_lt _ (by decide)) (af_split g)
  exact orF_pack _ _ _ 0x20 (Nat.lt_of_le_of_lt Nat.and_le_right (by decide)) (by decide) i0

theorem bit_body (B : BusOps β) (m : Nat) (hm : m < 256) (r : Reg8) (o0 o1 o2 o3 o4 o5 e : Nat) (g : Regs) (st s6 : St β)
    (hs : Sim g st) (h0 : g.af % 16 = 0)
    (hex : execList B e [(o0, Instr.test8i (hostR8 r) m), (o1, Instr.sete (R8.lo 14)), (o2, Instr.sh8 ShOp.ror (R8.lo 14) 1),
      (o3, Instr.alu8i AluOp.and (R8.lo 0) 16), (o4, Instr.alu8i AluOp.or (R8.lo 0) 32), (o5, Instr.alu8 AluOp.or (R8.lo 0) (R8.lo 14))] st = .ok s6) :
    Sim (testZero (orF (applyMask g 0xe0) 0x20) (getReg g r &&& m)) s6 ∧
    s6.bus = st.bus ∧ s6.stack = st.stack ∧ (get8 s6 (.lo 14) = 0 ∨ get8 s6 (.lo 14) = 0x80) := by
  obtain ⟨s1, h1, hex⟩ := execList_cons B _ _ _ _ _ _ hex
  obtain ⟨s2, h2, hex⟩ := execList_cons B _ _ _ _ _ _ hex
  obtain ⟨s3, h3, hex⟩ := execList_cons B _ _ _ _ _ _ hex
  obtain ⟨s5, h45, h6⟩ := execList_append B e [(o5, Instr.alu8 AluOp.or (R8.lo 0) (R8.lo 14))]
    [(o3, Instr.alu8i AluOp.and (R8.lo 0) 16), (o4, Instr.alu8i AluOp.or (R8.lo 0) 32)] s3 s6 hex
  obtain ⟨hs1, hu1, hz⟩ := step_test8i_sim B r m hm hs h1
  obtain ⟨v3, r3, b3, k3, sz3⟩ := step_sete_ror B s1 s2 s3 _ _ hs1.size h2 h3
  have hs3 := sim_scratch hs1 r3 sz3
  obtain ⟨x5, r5, b5, k5, sz5⟩ := two_al B .and .or (Or.inl rfl) (Or.inr (Or.inl rfl)) 16 32 (by decide) (by decide) o3 o4 o5 g s3 s5 hs3 h45
  have c0 : (g.af % 256 &&& 0x1f) ||| 0x20 < 256 :=
    Nat.or_lt_two_pow (n := 8) (Nat.lt_of_le_of_lt Nat.and_le_right (by decide)) (by decide)
  have hs5 : Sim (orF (applyMask g 0xe0) 0x20) s5 :=
    sim_af0 hs3 r5 sz5 ((sameButAf_applyMask g _).trans (sameButAf_orF _ _)) (by
      rw [x5, fBit_eq _ (by omega), bitFlags_pack]
      have := getReg_lt g .A
      omega)
  obtain ⟨q, qb, qk, q14⟩ := or_r14_sim B (getReg g r &&& m) c0 (bitFlags_pack g) hs5
    (by rw [r5 14 (by decide), v3, hz]) (execList_one B h6)
  exact ⟨q, by rw [qb, b5, b3, hu1.bus], by rw [qk, k5, k3, hu1.stack], q14⟩

/-- **BIT b,r** (8 bits x 7 registers): all states whose F has a clear low nibble -/
theorem sim_bit (b : Fin 8) (r : Reg8) (b2 : Nat) : SimulatesCbF (opcodeBit b r) b2 :=
  SimulatesCbF.intro (table_bit b r b2) rfl (by decide) (by decide) rfl fun B g _ _ hs h0 hex =>
    have h := bit_body B (bitMask b) (bitMask_lt b) r 0 3 7 10 12 14 17 g _ _ hs h0 hex
    ⟨_, fun _ => rfl, h.1, af16_orIf _ (or_mod16 (and_mod16 _ h0) rfl) rfl, h.2⟩

end GbVerif.X86
