import GbVerif.Proofs.X86SimRmw
import GbVerif.Proofs.X86SimRotT
/-
C01, the bus side: BIT b,(HL).  The template reads (HL) into dl, reloads AF into ax, runs the register form of BIT on dl
(= the host location of E; r14b is scratch), stores al into the saved F and pops: no write-back (`rmr_wrap`, the read-only
sibling of `rmw_wrap`).  Then RL (HL) / RR (HL): `rmw_sim` around the register form `rt_body_at`; like BIT they ask for a
clear low nibble of F and leave 0 or 0x80 in the status byte (`SimulatesCbMemSF`).
-/
namespace GbVerif.X86
open GbVerif.JitCycles GbVerif.Interp
variable {β : Type}

theorem step_test8_sim (B : BusOps β) (r : Reg8) (m : Nat) (hm : m < 256) (g : Regs) (st s1 : St β) (len : Nat) (hs : Sim g st)
    (h : step B st (.test8i (hostR8 r) m) len = .ok s1) :
    (∀ j, get s1 j = get st j) ∧ s1.bus = st.bus ∧ s1.stack = st.stack ∧ s1.r.size = st.r.size ∧
    s1.fl.zf = ((getReg g r &&& m) == 0) := by
  have e1 : step B st (.test8i (hostR8 r) m) len =
      .ok { ({ st with pc := st.pc + len } : St β) with fl := (aluOp .and 8 (get8 st (hostR8 r)) m st.fl).2 } := by
    simp only [step]
    rw [tokVal_small _ _ hm]
    rfl
  rw [e1] at h
  injection h with h
  refine ⟨fun j => by rw [← h]; rfl, by rw [← h], by rw [← h], by rw [← h], ?_⟩
  rw [← h, ← get8_sim hs r]; rfl

/-- `bitBody` with any mask, at the offsets `o 0 … o 5` -/
def bitBodyAt (m : Nat) (r : Reg8) (o : Nat → Nat) : List (Nat × Instr) :=
  [(o 0, Instr.test8i (hostR8 r) m), (o 1, Instr.sete (R8.lo 14)), (o 2, Instr.sh8 ShOp.ror (R8.lo 14) 1),
   (o 3, Instr.alu8i AluOp.and (R8.lo 0) 16), (o 4, Instr.alu8i AluOp.or (R8.lo 0) 32), (o 5, Instr.alu8 AluOp.or (R8.lo 0) (R8.lo 14))]

theorem bit_body_at (B : BusOps β) (m : Nat) (hm : m < 256) (r : Reg8) (o : Nat → Nat) (e : Nat) (g : Regs) (st s6 : St β) (hs : Sim g st)
    (h0 : g.af % 16 = 0) (hex : execList B e (bitBodyAt m r o) st = .ok s6) :
    Sim (testZero (orF (applyMask g 0xe0) 0x20) (getReg g r &&& m)) s6 ∧
    s6.bus = st.bus ∧ s6.stack = st.stack ∧ (get8 s6 (.lo 14) = 0 ∨ get8 s6 (.lo 14) = 0x80) :=
  bit_body B m hm r (o 0) (o 1) (o 2) (o 3) (o 4) (o 5) e g st s6 hs h0 hex

/-- `mov [rsp+16], al ; pop rdx ; pop rcx ; pop rax`: `rmwPost` without the write-back -/
def rmrPost (o : Nat → Nat) : List (Nat × Instr) :=
  [(o 0, Instr.store8 4 16 (R8.lo 0)), (o 1, Instr.pop 2), (o 2, Instr.pop 1), (o 3, Instr.pop 0)]

theorem rmr_post (B : BusOps β) (o : Nat → Nat) (e : Nat) (sb s' : St β) (d2 d1 d0 : W) (rest : List W)
    (hk : sb.stack = d2 :: d1 :: d0 :: rest) (hsz : sb.r.size = 16) (hex : execList B e (rmrPost o) sb = .ok s') :
    get s' 2 = d2 ∧ get s' 1 = d1 ∧ (get s' 0).toNat % 65536 = (d0.toNat / 256 % 256) * 256 + (get sb 0).toNat % 256 ∧
    (∀ j, j ∉ [0, 1, 2, 6, 7, 8, 9, 10, 11] → get s' j = get sb j) ∧ s'.stack = rest ∧ s'.bus = sb.bus ∧ s'.r.size = 16 := by
  have hex : execList B e ((o 0, Instr.store8 4 16 (R8.lo 0)) :: popAll [(o 1, 2), (o 2, 1), (o 3, 0)]) sb = .ok s' := hex
  obtain ⟨s1, h1, hex⟩ := execList_cons B _ _ _ _ _ _ hex
  obtain ⟨d0', k1, hd0, r1, b1, z1⟩ := step_poke_f B sb s1 _ d2 d1 d0 rest hk h1
  obtain ⟨k', b', z', r'⟩ := exec_popAll B _ (fun j => [d0', d1, d2].getD j 0) rest [(o 1, 2), (o 2, 1), (o 3, 0)] s1 s' k1 (by simp)
    (z1.trans hsz) hex
  refine ⟨(r' 2).trans (if_pos (by simp)), (r' 1).trans (if_pos (by simp)), by rw [r' 0, if_pos (by simp)]; exact hd0,
    fun j hj => ?_, k', b'.trans b1, z'⟩
  exact (r' j).trans ((if_neg fun hm => hj ((by decide : ∀ x ∈ [2, 1, 0], x ∈ [0, 1, 2, 6, 7, 8, 9, 10, 11]) j hm)).trans (r1 j))

/-- read (HL) into dl, run the register form of a flags-only operation on E (= dl) with AF in ax, keep the flags -/
theorem rmr_wrap (B : BusOps β) (hB : ByteReads B) (mid : List (Nat × Instr)) (o : Nat → Nat) (e : Nat)
    (fr : Regs → Regs) (fi : Nat → Regs → Regs) (P : Regs → Prop) (hP : ∀ g1 g2 : Regs, g1.af = g2.af → P g1 → P g2)
    (H2 : ∀ g', (fr g').af = (fi (getReg g' .E) g').af)
    (H3 : ∀ (g1 g2 : Regs) v, g1.af = g2.af → (fi v g1).af = (fi v g2).af)
    (H4 : ∀ v g, SameButAf g (fi v g))
    (H5 : ∀ v (g : Regs), (fi v g).af % 65536 / 256 = g.af % 65536 / 256)
    (H6 : ∀ g', (fr g').bc = g'.bc ∧ (fr g').sp = g'.sp ∧ (fr g').ip = g'.ip ∧ (fr g').cycles = g'.cycles)
    (R : W → W → Prop)
    (hbody : ∀ (g' : Regs) (st0 s1 : St β), Sim g' st0 → P g' → execList B (headOff e (rmrPost o)) mid st0 = .ok s1 →
      Sim (fr g') s1 ∧ s1.bus = st0.bus ∧ s1.stack = st0.stack ∧ R (get st0 14) (get s1 14))
    (g : Regs) (st s' : St β) (hs : Sim g st) (hPg : P g)
    (hex : execList B e ((rmwPre ++ mid) ++ rmrPost o) st = .ok s') :
    ∃ v, B.read st.bus (getReg16 g .HL) = .ok v ∧ Sim (fi v g) s' ∧ s'.bus = st.bus ∧ s'.stack = st.stack ∧ R (get st 14) (get s' 14) := by
  obtain ⟨sb, hex1, hexp⟩ := execList_append B e _ _ st s' hex
  obtain ⟨v, d, h, hrd, hE, hsb, hb, hk, hR⟩ := rmw_head B hB hP hbody hs hPg hex1
  obtain ⟨g2, g1, g0, hr', hk', hb', hz'⟩ := rmr_post B o e sb s' _ _ _ _ hk hsb.size hexp
  exact ⟨v, hrd, sim_after_post hs hsb ((H2 _).trans (hE ▸ H3 { g with de := d, hl := h } g v rfl)) (H6 _) (H4 v g) (H5 v g) g2 g1 g0
    hr' hz', hb'.trans hb, hk', hr' 14 (by decide) ▸ hR⟩

/-- offsets of `bitBodyAt` in the template of BIT b,(HL) -/
def bitHlOff (k : Nat) : Nat := [36, 39, 43, 46, 48, 50].getD k 0
/-- offsets of `rmrPost` in the template of BIT b,(HL) -/
def rmrOff (k : Nat) : Nat := [53, 57, 58, 59].getD k 0
def opcodeBitHl (b : Fin 8) : Nat := 0x46 + 8 * b.val

theorem table_bithl (b : Fin 8) (b2 : Nat) :
    decodeCode (Gen.emitCb (opcodeBitHl b)) = some (((rmwPre ++ bitBodyAt (bitMask b) .E bitHlOff) ++ rmrPost rmrOff) ++ [(60, addIp 2), (64, addCy 3)]) ∧
    bytesOf (Gen.emitCb (opcodeBitHl b)) = 68 ∧ Gen.decode 0xcb (opcodeBitHl b) b2 = (.BitTestIndirect (bitMask b), 2, 12) := by
  rw [decode_cb]
  revert b
  decide +kernel

/-- `SimulatesCbMemS` from the register files whose F has a clear low nibble (`g.af % 16 = 0`); of the nibble afterwards nothing
is said -/
def SimulatesCbMemSF (b1 b2 : Nat) : Prop :=
  ∃ code, decodeCode (Gen.emitCb b1) = some code ∧
  ∀ (β : Type) (B : BusOps β), ByteReads B → ∀ (g : Regs) (fuel : Nat) (st st' : St β), Sim g st → g.af % 16 = 0 → st.pc = 0 →
    run B code (bytesOf (Gen.emitCb b1)) fuel st = .ok st' →
    ∃ g' m', runOp B (Gen.decode 0xcb b1 b2).1 g st.bus (Gen.decode 0xcb b1 b2).2.1 = .ok (g', m', STATUS_NORMAL) ∧
      Sim { g' with cycles := g'.cycles + (Gen.decode 0xcb b1 b2).2.2 / 4 } st' ∧ st'.bus = m' ∧ st'.stack = st.stack ∧
      (get8 st' (.lo 14) = 0 ∨ get8 st' (.lo 14) = 0x80)

theorem flagOp_bit (m : Nat) : FlagOp (fun r v => testZero (orF (applyMask r 0xe0) 0x20) (v &&& m)) := by
  refine ⟨fun _ _ _ h => af_testZero _ _ _ (af_orF _ _ _ (af_applyMask _ _ _ h)),
    fun g _ => ((sameButAf_applyMask g 0xe0).trans (sameButAf_orF _ 0x20)).trans (sameButAf_testZero _ _), fun g v => ?_⟩
  have c1 : (g.af % 256 &&& 0x1f) ||| 0x20 < 256 :=
    Nat.or_lt_two_pow (n := 8) (Nat.lt_of_le_of_lt Nat.and_le_right (by decide)) (by decide)
  exact hiA_pack _ _ _ (or_bit_lt _ _ 0x80 c1 (by decide)) (testZero_pack _ _ _ (v &&& m) c1 (bitFlags_pack g)) g rfl

/-- **BIT b,(HL)** (8 bits): all states whose F has a clear low nibble, any bus; the status byte is left at 0 or 0x80 -/
theorem sim_bithl (b : Fin 8) (b2 : Nat) : SimulatesCbMemSF (opcodeBitHl b) b2 :=
  simulatesCbMem_of_body (fun g => g.af % 16 = 0) (fun _ b => b.toNat % 256 = 0 ∨ b.toNat % 256 = 0x80) (table_bithl b b2)
      rfl (by decide) (by decide) rfl fun B hB g st s1 hs h0 hex =>
    have hF := flagOp_bit (bitMask b)
    have ⟨v, hrd, hs1, hb1, hk1, h14⟩ := rmr_wrap B hB (bitBodyAt (bitMask b) .E bitHlOff) rmrOff 60
      (fun g' => testZero (orF (applyMask g' 0xe0) 0x20) (getReg g' .E &&& bitMask b))
      (fun v g => testZero (orF (applyMask g 0xe0) 0x20) (v &&& bitMask b))
      (fun g => g.af % 16 = 0) (fun _ _ h hp => h ▸ hp)
      (fun _ => rfl) hF.af (fun v g => hF.same g v) (fun v g => hF.hiA g v)
      (fun g' => (hF.same g' (getReg g' .E)).keeps)
      (fun _ b => b.toNat % 256 = 0 ∨ b.toNat % 256 = 0x80)
      (bit_body_at B (bitMask b) (bitMask_lt b) .E bitHlOff _)
      g st s1 hs h0 hex
    ⟨_, _, bind_ok hrd _, hs1, hb1, hk1, h14⟩

/-- offsets of the conversion and the fix-up in the templates of RL / RR (HL): `aluOff' 6` moved on by 36 (entry 0 is not used:
`rottBodyAt` takes the first three offsets apart) -/
def rtHlOff (k : Nat) : Nat := [0, 42, 43, 44, 47, 49, 52, 58, 63, 69, 71].getD k 0
/-- offsets of `rmwPost` in the templates of RL / RR (HL) -/
def rmwOff8 (k : Nat) : Nat := [85, 89, 94, 104, 114, 116, 117, 118].getD k 0

def Rt2.opHl : Rt2 → Op
  | .rl => .RotateLeftIndirect | .rr => .RotateRightIndirect
def opcodeRtHl (k : Rt2) : Nat := k.base + 6

theorem table_rthl (k : Rt2) (b2 : Nat) :
    decodeCode (Gen.emitCb (opcodeRtHl k)) = some (((rmwPre ++ (rottBodyAt k .E 36 38 40 rtHlOff ++ zTail .E 73 75 79 82)) ++ rmwPost rmwOff8) ++ [(119, addIp 2), (123, addCy 4)]) ∧
    bytesOf (Gen.emitCb (opcodeRtHl k)) = 127 ∧ Gen.decode 0xcb (opcodeRtHl k) b2 = (k.opHl, 2, 16) := by
  cases k <;> exact ⟨by decide +kernel, by decide +kernel, rfl⟩

/-- **RL (HL), RR (HL)**: all states whose F has a clear low nibble, any bus; the status byte is left at 0 or 0x80 -/
theorem sim_rthl (k : Rt2) (b2 : Nat) : SimulatesCbMemSF (opcodeRtHl k) b2 :=
  simulatesCbMem_of_body (fun g => g.af % 16 = 0) (fun _ b => b.toNat % 256 = 0 ∨ b.toNat % 256 = 0x80) (table_rthl k b2)
      rfl (by decide) (by decide) rfl fun B hB _ _ _ hs h0 hex =>
    rmw_sim B hB (fun v a => (k.res v a).1) (fun r v => flagsRot r (k.res v r.af) true) (fun a => a % 16 = 0)
      (flagOp_rot k.res) (fun v a hv => rotT_lt k v hv a)
      (fun _ b => b.toNat % 256 = 0 ∨ b.toNat % 256 = 0x80)
      (rt_body_at B k .E 36 38 40 rtHlOff 73 75 79 82 _)
      (by cases k <;> exact fun _ _ => rfl) hs h0 hex

end GbVerif.X86
