import GbVerif.Proofs.CartFrame
import GbVerif.Proofs.InterpLen
import GbVerif.Proofs.BusWf
import GbVerif.Model.Cache
import GbVerif.Proofs.Enum
import GbVerif.Proofs.Sm83Bits
/-!
The interpreter and the translator walk a ROM block the same way: the guest bytes the interpreter decodes while it
executes a block located in ROM (no store below 0x8000 in it) are exactly the bytes `translate_code_block` consumes
when it translates that block under the bank mapped at entry — same instruction boundaries, same block end.
-/
namespace GbVerif.CoreProofs
open GbVerif.Interp GbVerif.BusProofs

theorem canDynarec_lt {a : Nat} (h : Cpu.canDynarec a = true) : a < 0x8000 ∧ a % 16384 < 0x3ffe := by
  simp only [Cpu.canDynarec, Bool.and_eq_true, decide_eq_true_eq, and_3fff] at h
  exact h

theorem sliceByte_lo {s : Bus.State} {ip k : Nat} (h1 : ip < 0x4000) (h2 : ip + k < s.romLen) :
    Cpu.sliceByte s ip k = .ok (s.rom (ip + k)) := by
  unfold Cpu.sliceByte; rw [if_pos h1, if_pos h2]

theorem sliceByte_hi {s : Bus.State} {ip k : Nat} (h0 : ¬ ip < 0x4000) (h1 : ip < 0x8000)
    (h2 : Cart.getRomBank s.cart * 0x4000 + (ip &&& 0x3fff) + k < s.romLen) :
    Cpu.sliceByte s ip k = .ok (s.rom (Cart.getRomBank s.cart * 0x4000 + (ip &&& 0x3fff) + k)) := by
  unfold Cpu.sliceByte
  rw [if_neg h0, if_pos h1]
  show (if Cart.getRomBank s.cart * 0x4000 + (ip &&& 0x3fff) + k < s.romLen then _ else _) = _
  rw [if_pos h2]

theorem romAt_lo {rom : Nat → Nat} {bank a : Nat} (h : a < 0x4000) : Cache.romAt rom bank a = rom a := by
  unfold Cache.romAt; rw [if_pos h]

theorem romAt_hi {rom : Nat → Nat} {bank a : Nat} (h : ¬ a < 0x4000) : Cache.romAt rom bank a = rom (bank * 0x4000 + (a - 0x4000)) := by
  unfold Cache.romAt; rw [if_neg h]

/-- byte `k` of the slice at a banked ROM address, with the index written as the translator writes it -/
theorem sliceByte_hi' {s : Bus.State} {ip k : Nat} (h0 : ¬ ip < 0x4000) (h1 : ip < 0x8000)
    (h2 : Cart.getRomBank s.cart * 0x4000 + (ip + k - 0x4000) < s.romLen) :
    Cpu.sliceByte s ip k = .ok (Cache.romAt s.rom (Cart.getRomBank s.cart) (ip + k)) := by
  have ea : ip &&& 0x3fff = ip - 0x4000 := by rw [and_3fff]; omega
  have e : ∀ B : Nat, B + (ip - 0x4000) + k = B + (ip + k - 0x4000) := by intro B; omega
  rw [romAt_hi (by omega), ← e, ← ea]
  exact sliceByte_hi h0 h1 (by rw [ea, e]; exact h2)

/-- the three bytes `run_next_op` decodes at a translatable ROM address are the ROM bytes under the mapped bank -/
theorem fetch3_rom {s : Bus.State} (wf : WF s) {ip : Nat} (hd : Cpu.canDynarec ip = true) :
    Cpu.fetch3 s ip = .ok (Cache.romAt s.rom (Cart.getRomBank s.cart) ip, Cache.romAt s.rom (Cart.getRomBank s.cart) (ip + 1),
      Cache.romAt s.rom (Cart.getRomBank s.cart) (ip + 2)) := by
  obtain ⟨h1, h2⟩ := canDynarec_lt hd
  have hb := getRomBank_lt s.cart wf.banks
  have hl := wf.romLen
  unfold Cpu.fetch3
  by_cases hlo : ip < 0x4000
  · have hs : Cpu.sliceLen ip = .ok (0x4000 - ip) := by unfold Cpu.sliceLen; rw [if_pos hlo]
    rw [hs]
    simp only [bind, Except.bind]
    rw [if_neg (by omega), sliceByte_lo hlo (by omega), sliceByte_lo hlo (by omega), sliceByte_lo hlo (by omega)]
    rw [romAt_lo hlo, romAt_lo (by omega), romAt_lo (by omega)]
    rfl
  · have hs : Cpu.sliceLen ip = .ok (0x4000 - (ip &&& 0x3fff)) := by unfold Cpu.sliceLen; rw [if_neg hlo, if_pos h1]
    rw [hs]
    have ea : ip &&& 0x3fff = ip - 0x4000 := by rw [and_3fff]; omega
    simp only [bind, Except.bind]
    have hB : ∀ k, k ≤ 2 → Cart.getRomBank s.cart * 0x4000 + (ip + k - 0x4000) < s.romLen := by
      intro k hk
      omega
    rw [if_neg (by rw [ea]; omega), sliceByte_hi' hlo h1 (hB 0 (by omega)), sliceByte_hi' hlo h1 (hB 1 (by omega)),
      sliceByte_hi' hlo h1 (hB 2 (by omega))]
    rfl

macro "wrr" h:ident : tactic => `(tactic| (
  obtain ⟨x, _, $h:ident⟩ := bind_ok_elim $h:ident
  injection $h:ident with $h:ident; subst $h:ident; exact ⟨rfl, rfl⟩))

/-- what a guarded `run_op` keeps: the ROM image, the cartridge registers, well-formedness -/
def Keeps (s m : Bus.State) : Prop := m.rom = s.rom ∧ m.cart = s.cart ∧ WF m

theorem runOp_hi_keeps {op : Op} {r r' : Regs} {s s' : Bus.State} {len st : Nat} (wf : WF s)
    (h : runOp hiBus op r s len = .ok (r', s', st)) : Keeps s s' := by
  refine runOp_inv hiBus (Keeps s) ?_ op r s len r' s' st h ⟨rfl, rfl, wf⟩
  intro m a v m' hw hp
  have hc := hiBus_write hw
  rw [hiBus, guard_write_iff] at hw
  exact ⟨(write_effect hw.2).rom.trans hp.1, hc.trans hp.2.1, wf_write hp.2.2 hw.2⟩

/-- the block loop on the guarded bus, recording the guest bytes of every instruction it executes -/
def walkHi (start : Nat) (r : Regs) (s : Bus.State) (status : Nat) :
    Nat → Except Bus.Panic ((Regs × Bus.State × Nat) × List Nat)
  | 0 => .error (.explicit "fuel")
  | fuel+1 =>
    if start < 0x8000 && Cpu.romBlockMustEnd start r.ip then pure ((r, s, status), [])
    else do
      let (b0, b1, b2) ← Cpu.fetch3 s r.ip
      let (r', s', st, stop) ← runNextOpHi r s
      let bytes := (List.range (Gen.decode b0 b1 b2).2.1).map fun k => [b0, b1, b2].getD k 0
      if stop then pure ((r', s', st), bytes)
      else do
        let (res, tr) ← walkHi start r' s' st fuel
        pure (res, bytes ++ tr)

theorem decode_len_le_3 : ∀ b0, b0 < 2^8 → ∀ b1 b2, b1 < 2^8 → (Gen.decode b0 b1 b2).2.1 ≤ 3 := by
  intro b0 h0 b1 b2 h1
  have ha := GbVerif.Enum.forall_lt_of_allRange (fun b => decide (Gen.opLen b ≤ 3)) 8 (by decide +kernel) b0 h0
  have hb := GbVerif.Enum.forall_lt_of_allRange (fun b => decide (Gen.cbOpLen b ≤ 3)) 8 (by decide +kernel) b1 h1
  unfold Gen.decode
  split
  · exact of_decide_eq_true hb
  · exact of_decide_eq_true ha

/-- the first `len ≤ 3` of the three fetched bytes are the ROM bytes at `index …` -/
theorem bytes_eq (f : Nat → Nat) (index len : Nat) (hl : len ≤ 3) :
    ((List.range len).map fun k => [f index, f (index + 1), f (index + 2)].getD k 0) = (List.range len).map fun k => f (index + k) := by
  apply List.map_congr_left
  intro k hk
  have hk' : k < len := List.mem_range.mp hk
  match k, hk' with
  | 0, _ => rfl
  | 1, _ => rfl
  | 2, _ => rfl
  | k+3, h => omega

/-- the guarded walk is the real block loop -/
theorem walkHi_real (start : Nat) : ∀ (fuel : Nat) (r : Regs) (s : Bus.State) (st : Nat)
    (res : Regs × Bus.State × Nat) (bytes : List Nat),
    walkHi start r s st fuel = .ok (res, bytes) → Cpu.runCodeBlockAux start r s st fuel = .ok res := by
  intro fuel
  induction fuel with
  | zero => intro r s st res bytes h; cases h
  | succ n ih =>
    intro r s st res bytes h
    rw [walkHi] at h
    rw [Cpu.runCodeBlockAux]
    split at h
    · rename_i hc
      rw [if_pos hc]
      simp only [pure, Except.pure, Except.ok.injEq, Prod.mk.injEq] at h
      obtain ⟨rfl, _⟩ := h
      rfl
    · rename_i hc
      rw [if_neg hc]
      obtain ⟨⟨b0, b1, b2⟩, _, h⟩ := bind_ok_elim h
      obtain ⟨⟨r1, s1, st1, stop⟩, h1, h⟩ := bind_ok_elim h
      obtain ⟨hreal, _⟩ := runNextOpHi_spec h1
      simp only [bind, Except.bind, hreal]
      simp only [] at h ⊢
      split at h
      · rename_i hs
        simp only [hs, if_true]
        simp only [pure, Except.pure, Except.ok.injEq, Prod.mk.injEq] at h
        obtain ⟨rfl, _⟩ := h
        rfl
      · rename_i hs
        simp only [hs, Bool.false_eq_true, if_false]
        obtain ⟨⟨res', tr'⟩, h2, h⟩ := bind_ok_elim h
        simp only [pure, Except.pure, Except.ok.injEq, Prod.mk.injEq] at h
        obtain ⟨rfl, _⟩ := h
        exact ih _ _ _ _ _ h2

theorem romAt_lt {rom : Nat → Nat} (hrom : ∀ i, rom i < 256) (bank a : Nat) : Cache.romAt rom bank a < 256 := by
  unfold Cache.romAt; split <;> exact hrom _

/-- a block continues at `ip` only if `ip` is translatable (the start is by assumption) -/
theorem dyn_of_not_end {start ip : Nat} (hd : Cpu.canDynarec start = true) (h : Cpu.romBlockMustEnd start ip = false) :
    Cpu.canDynarec ip = true := by
  unfold Cpu.romBlockMustEnd at h
  by_cases he : ip = start
  · rw [he]; exact hd
  · have : (ip != start) = true := by simpa using he
    rw [this, Bool.true_and] at h
    cases hc : Cpu.canDynarec ip with
    | true => rfl
    | false => rw [hc] at h; simp at h

/-- **same walk**: the bytes the interpreter decodes while it runs a ROM block (on the guarded bus) are the bytes the
translator consumes for that block under the bank mapped at entry -/
theorem walkHi_source (start : Nat) (hs : start < 0x8000) (hd : Cpu.canDynarec start = true) :
    ∀ (fuel : Nat) (r : Regs) (s : Bus.State) (st : Nat) (res : Regs × Bus.State × Nat) (bytes : List Nat),
    WF s → (∀ i, s.rom i < 256) → walkHi start r s st fuel = .ok (res, bytes) →
    bytes = Cache.sourceBytes s.rom (Cart.getRomBank s.cart) start r.ip fuel := by
  intro fuel
  induction fuel with
  | zero => intro r s st res bytes _ _ h; cases h
  | succ n ih =>
    intro r s st res bytes wf hrom h
    rw [walkHi] at h
    rw [Cache.sourceBytes]
    have hs' : decide (start < 0x8000) = true := by simpa using hs
    cases hme : Cpu.romBlockMustEnd start r.ip with
    | true =>
      rw [hme] at h
      simp only [hs', Bool.and_self, if_true, pure, Except.pure, Except.ok.injEq, Prod.mk.injEq] at h
      simp only [if_true]
      exact h.2.symm
    | false =>
      rw [hme] at h
      simp only [Bool.and_false, Bool.false_eq_true, if_false] at h ⊢
      have hdyn := dyn_of_not_end hd hme
      obtain ⟨hip, hmod⟩ := canDynarec_lt hdyn
      have hf := fetch3_rom wf hdyn
      rw [hf] at h
      obtain ⟨_, hfe, h⟩ := bind_ok_elim h
      cases hfe
      simp only [] at h
      obtain ⟨⟨r1, s1, st1, stop⟩, h1, h⟩ := bind_ok_elim h
      obtain ⟨b0, b1, b2, op, len, clocks, r0, s0, st0, hf', hdec, h2, hx⟩ := runNextOpHi_elim h1
      obtain ⟨rfl, rfl, rfl⟩ : b0 = _ ∧ b1 = _ ∧ b2 = _ := by
        rw [hf] at hf'; simpa using (Except.ok.inj hf').symm
      obtain ⟨rfl, rfl, rfl, rfl⟩ : r1 = _ ∧ s1 = _ ∧ st1 = _ ∧ stop = _ := by simpa using hx
      have hl3 : len ≤ 3 := by
        have := decode_len_le_3 _ (romAt_lt hrom (Cart.getRomBank s.cart) r.ip) _
          (Cache.romAt s.rom (Cart.getRomBank s.cart) (r.ip + 2)) (romAt_lt hrom (Cart.getRomBank s.cart) (r.ip + 1))
        rwa [hdec] at this
      simp only [hdec] at h ⊢
      rw [bytes_eq (Cache.romAt s.rom (Cart.getRomBank s.cart)) r.ip len hl3] at h
      cases hstop : Gen.isBlockEnd op with
      | true =>
        rw [hstop] at h
        simp only [if_true, pure, Except.pure, Except.ok.injEq, Prod.mk.injEq] at h ⊢
        exact h.2.symm
      | false =>
        rw [hstop] at h
        simp only [Bool.false_eq_true, if_false] at h ⊢
        obtain ⟨⟨res', tr⟩, h3, h⟩ := bind_ok_elim h
        simp only [pure, Except.pure, Except.ok.injEq, Prod.mk.injEq] at h
        have hk := runOp_hi_keeps wf h2
        have hr1ip : (r0.ip &&& 0xffff) = r.ip + len := by
          rw [runOp_ip hiBus op r s len r0 s1 st1 hstop h2, Sm83Bits.and_ffff]
          exact Nat.mod_eq_of_lt (by omega)
        have := ih _ s1 st1 res' tr hk.2.2 (by rw [hk.1]; exact hrom) h3
        rw [hk.1, hk.2.1] at this
        rw [← h.2, this]
        simp only [hr1ip]

/-- more fuel does not change a block run that completed -/
theorem runCodeBlockAux_fuel (start : Nat) : ∀ (fuel k : Nat) (r : Regs) (s : Bus.State) (st : Nat) (res : Regs × Bus.State × Nat),
    Cpu.runCodeBlockAux start r s st fuel = .ok res → Cpu.runCodeBlockAux start r s st (fuel + k) = .ok res := by
  intro fuel
  induction fuel with
  | zero => intro k r s st res h; cases h
  | succ n ih =>
    intro k r s st res h
    rw [show n + 1 + k = (n + k) + 1 by omega]
    rw [Cpu.runCodeBlockAux] at h ⊢
    split at h
    · rename_i hc; rw [if_pos hc]; exact h
    · rename_i hc
      rw [if_neg hc]
      obtain ⟨⟨r1, s1, st1, stop⟩, h1, h⟩ := bind_ok_elim h
      simp only [bind, Except.bind, h1]
      simp only [] at h ⊢
      split at h
      · rename_i hs; simp only [hs, if_true]; exact h
      · rename_i hs
        simp only [hs, Bool.false_eq_true, if_false]
        exact ih k _ _ _ _ h

end GbVerif.CoreProofs
