import GbVerif.Proofs.SysTotal
import GbVerif.Proofs.Lcd
/-!
Batch independence of the whole device composition: letting `a + b` clocks pass in one call of
`MemoryAreas::run_clock_cycles` leaves the machine exactly where a call with `a` followed by a call with `b` leaves it
— OAM DMA (any source page, including the I/O page whose registers change while the copy runs), timer, LCD with its
frame counter, joypad request, IF.  Then what the passage of time leaves alone (`dev_rest`), and that the invariants
of the batch theorem are kept by every catch-up and every bus write (`dev_keeps`, `write_keeps`).
-/
namespace GbVerif.SysProofs
open GbVerif GbVerif.Bus GbVerif.BusProofs GbVerif.CoreProofs

/-- what `IO::run_clock_cycles` needs of the I/O block to be additive: the timer's counter and clock mask in 16 bits -/
def IoOk (io : Bus.Io) : Prop := io.timer.cycleCount < 65536 ∧ io.timer.clockMask < 65536

theorem timerOf_regsOf (t : Timer.State) : Sys.timerOf (Sys.regsOfTimer t) = t := by cases t; rfl

/-- frames counted over `m + n` loop iterations = over the first `m` plus over the next `n` -/
theorem vblanks_add (m : Nat) : ∀ (n : Nat) (s : Lcd.State),
    Sys.vblanks (m + n) s = Sys.vblanks m s + Sys.vblanks n (Lcd.run m s).1 := by
  induction m with
  | zero => intro n s; simp [Sys.vblanks, LcdProofs.run_zero]
  | succ m ih =>
    intro n s
    rw [show m + 1 + n = (m + n) + 1 by omega, Sys.vblanks, Sys.vblanks, ih, LcdProofs.run_succ]
    simp only []
    omega

theorem lcdOf_update (v : Bus.VideoRegs) (l : Lcd.State) (f : Nat)
    (h1 : l.lyc = v.lyc) (h2 : l.irqLyc = v.irqLyc) (h3 : l.irqM2 = v.irqM2) (h4 : l.irqM1 = v.irqM1) (h5 : l.irqM0 = v.irqM0) :
    Sys.lcdOf { v with mode := l.mode.toNat, dots := l.dots, line := l.line, frames := f } = l := by
  cases l
  simp only [Sys.lcdOf] at *
  subst h1 h2 h3 h4 h5
  simp only [modeOfNat_toNat]

theorem run_enables (n : Nat) (s : Lcd.State) :
    (Lcd.run n s).1.lyc = s.lyc ∧ (Lcd.run n s).1.irqLyc = s.irqLyc ∧ (Lcd.run n s).1.irqM2 = s.irqM2 ∧
    (Lcd.run n s).1.irqM1 = s.irqM1 ∧ (Lcd.run n s).1.irqM0 = s.irqM0 := by
  have h := LcdProofs.run_regs n s
  have e := h.2
  simp only [LcdProofs.enOf, LcdSpec.Enables.mk.injEq] at e
  exact ⟨h.1, e.1, e.2.1, e.2.2.1, e.2.2.2⟩

/-- the LCD part: `a + b` clocks = `a` then `b`, flags OR-ed, frames added up -/
theorem videoRun_add (v : Bus.VideoRegs) (a b : Nat) (ha : a % 4 = 0) (hb : b % 4 = 0) :
    Sys.videoRun v (a + b) =
      (Sys.videoRun v a).bind fun r1 => (Sys.videoRun r1.1 b).map fun r2 => (r2.1, r1.2 ||| r2.2) := by
  rw [videoRun_eq v (k := a + b) (by omega), videoRun_eq v ha]
  simp only [Except.bind]
  have hr := run_enables (a / 4) (Sys.lcdOf v)
  have hl : Sys.lcdOf { v with mode := (Lcd.run (a / 4) (Sys.lcdOf v)).1.mode.toNat, dots := (Lcd.run (a / 4) (Sys.lcdOf v)).1.dots,
                               line := (Lcd.run (a / 4) (Sys.lcdOf v)).1.line,
                               frames := v.frames + Sys.vblanks (a / 4) (Sys.lcdOf v) } = (Lcd.run (a / 4) (Sys.lcdOf v)).1 :=
    lcdOf_update v _ _ hr.1 hr.2.1 hr.2.2.1 hr.2.2.2.1 hr.2.2.2.2
  rw [videoRun_eq _ hb, hl]
  simp only [Except.map]
  rw [show (a + b) / 4 = a / 4 + b / 4 by omega, LcdProofs.run_add, vblanks_add]
  simp only [Nat.add_assoc]

/-- IF accumulation: OR-ing the flags of the whole batch = OR-ing those of its two parts one after the other -/
theorem or_flags (x p q : Nat) (fa fb j : Bool) :
    x ||| ((if (fa || fb) then 4 else 0) ||| (p ||| q) ||| (if j then 0x10 else 0)) =
    (x ||| ((if fa then 4 else 0) ||| p ||| (if j then 0x10 else 0))) ||| ((if fb then 4 else 0) ||| q ||| (if false then 0x10 else 0)) := by
  have h4 : (if (fa || fb) then 4 else 0 : Nat) = (if fa then 4 else 0) ||| (if fb then 4 else 0) := by
    cases fa <;> cases fb <;> rfl
  rw [h4, show (if false then 0x10 else 0 : Nat) = 0 from rfl, Nat.or_zero]
  ac_rfl

/-- **`IO::run_clock_cycles` is additive**: timer, LCD, frame counter, joypad request and IF after `a + b` clocks in one
call = after `a` then `b` -/
theorem ioRun_add (io : Bus.Io) (a b : Nat) (ha : a % 4 = 0) (hb : b % 4 = 0) (hab : a + b < 2 ^ 32 - 65536) (ok : IoOk io) :
    Sys.ioRun io (a + b) = (Sys.ioRun io a).bind fun io1 => Sys.ioRun io1 b := by
  unfold Sys.ioRun
  have hc : (Sys.timerOf io.timer).cycleCount < 65536 := ok.1
  have hm : (Sys.timerOf io.timer).timerClockMask < 65536 := ok.2
  rw [runCycles_some _ (a + b) hc hab, runCycles_some _ a hc (by omega)]
  simp only []
  rw [videoRun_add io.video a b ha hb]
  cases hva : Sys.videoRun io.video a with
  | error e => simp only [Except.bind, bind]
  | ok r1 =>
    obtain ⟨v1, f1⟩ := r1
    simp only [Except.bind, bind, pure, Except.pure, timerOf_regsOf]
    rw [runCycles_some _ b (Timer.run_cc_lt a _) (by omega)]
    simp only []
    cases hvb : Sys.videoRun v1 b with
    | error e => simp only [Except.map]
    | ok r2 =>
      obtain ⟨v2, f2⟩ := r2
      simp only [Except.map, Joypad.takeIrq]
      rw [Timer.run_add a b _ hm]
      refine congrArg Except.ok ?_
      congr 1
      exact or_flags io.ifl f1 f2 _ _ _

/-! ### the state right after a catch-up, and a catch-up of zero clocks -/

/-- right after `IO::run_clock_cycles`: the joypad request has been taken, the timer counter is masked, the LCD mode is
one of the four modes -/
def Settled (io : Bus.Io) : Prop := io.joy.irq = false ∧ io.timer.cycleCount < 65536 ∧ io.video.mode < 4

theorem regsOf_timerOf (r : Bus.TimerRegs) : Sys.regsOfTimer (Sys.timerOf r) = r := by cases r; rfl

theorem toNat_lt (m : Lcd.Mode) : m.toNat < 4 := by cases m <;> decide

theorem ioRun_settled {io io' : Bus.Io} {k : Nat} (h : Sys.ioRun io k = .ok io') : Settled io' := by
  obtain ⟨v, vf, x, hv, rfl⟩ := ioRun_elim h
  refine ⟨rfl, Timer.run_cc_lt _ _, ?_⟩
  rw [videoRun_eq _ (videoRun_elim hv)] at hv
  injection hv with hv; injection hv with hv _; subst hv
  exact toNat_lt _

theorem ioRun_ok {io io' : Bus.Io} {k : Nat} (ok : IoOk io) (h : Sys.ioRun io k = .ok io') : IoOk io' := by
  refine ⟨(ioRun_settled h).2.1, ?_⟩
  obtain ⟨v, vf, x, _, rfl⟩ := ioRun_elim h
  show (Timer.run _ (Sys.timerOf io.timer)).1.timerClockMask < 65536
  rw [(Timer.run_frame _ _ ok.2).2.2.2.1]; exact ok.2

theorem modeOfNat_lt {n : Nat} (h : n < 4) : (Sys.modeOfNat n).toNat = n := by
  match n, h with
  | 0, _ => rfl
  | 1, _ => rfl
  | 2, _ => rfl
  | 3, _ => rfl

/-- a catch-up of zero clocks right after a catch-up changes nothing -/
theorem ioRun_zero {io : Bus.Io} (ok : IoOk io) (h : Settled io) : Sys.ioRun io 0 = .ok io := by
  obtain ⟨hj, hc, hm⟩ := h
  unfold Sys.ioRun
  rw [runCycles_some _ 0 hc (by decide)]
  simp only []
  have ht : Timer.run 0 (Sys.timerOf io.timer) = (Sys.timerOf io.timer, false) := by
    rw [Timer.run_eq_clocks 0 _ ok.2, Timer.norm_of_lt _ hc]; rfl
  have hv : Sys.videoRun io.video 0 = .ok (io.video, 0) := by
    rw [videoRun_eq _ (Nat.zero_mod 4)]
    show Except.ok ({ io.video with mode := (Sys.modeOfNat io.video.mode).toNat, dots := io.video.dots, line := io.video.line,
                                    frames := io.video.frames + 0 }, 0) = _
    rw [modeOfNat_lt hm]
    cases io.video; rfl
  simp only [hv, bind, Except.bind, pure, Except.pure, Joypad.takeIrq, ht, regsOf_timerOf]
  cases io with
  | mk joy sb sc so timer ifl ie ieu video =>
    cases joy
    simp only [] at hj
    subst hj
    simp

/-- the copy loop: completes, keeps the invariants, and ends right after a catch-up -/
theorem dmaLoop_keeps (source : Nat) (n : Nat) {s : Bus.State} (wf : WF s) (ok : IoOk s.io) (off : Nat) (h : off + n ≤ 0xa0) :
    ∃ s', Sys.dmaLoop s source off n = .ok (s', off + n) ∧ WF s' ∧ IoOk s'.io ∧ (0 < n → Settled s'.io) := by
  obtain ⟨s', h', wf', ok', st'⟩ := dmaLoop_ind source (fun o x => IoOk x.io ∧ (off < o → Settled x.io))
    (fun x _ _ hx => by
      obtain ⟨io, hio, _⟩ := ioRun_total (k := 4) (by decide) (by decide) hx.1.1
      exact ⟨io, hio, ioRun_ok hx.1 hio, fun _ => ioRun_settled hio⟩)
    n wf off ⟨ok, fun hlt => absurd hlt (Nat.lt_irrefl _)⟩ h
  exact ⟨s', h', wf', ok', fun hn => st' (by omega)⟩

theorem dmaLoop_split (source : Nat) : ∀ (n1 n2 : Nat) (s : Bus.State) (off : Nat),
    Sys.dmaLoop s source off (n1 + n2) = (Sys.dmaLoop s source off n1).bind fun p => Sys.dmaLoop p.1 source p.2 n2
  | 0, n2, s, off => by simp [Sys.dmaLoop, Except.bind]
  | n1+1, n2, s, off => by
    rw [show n1 + 1 + n2 = (n1 + n2) + 1 by omega, dmaLoop_succ, dmaLoop_succ]
    cases h1 : dmaCopyByte s source off with
    | error e => rfl
    | ok s1 =>
      simp only [Except.bind]
      cases h2 : Sys.ioRun s1.io 4 with
      | error e => rfl
      | ok io2 =>
        simp only []
        exact dmaLoop_split source n1 n2 _ _

/-- the loop neither reads nor writes the DMA bookkeeping field -/
theorem dmaLoop_dma (source : Nat) (d : Option (Nat × Nat)) : ∀ (n : Nat) {s : Bus.State} (_ : WF s) (off : Nat), off + n ≤ 0xa0 →
    Sys.dmaLoop { s with dma := d } source off n = (Sys.dmaLoop s source off n).map fun p => ({ p.1 with dma := d }, p.2)
  | 0, s, _, off, _ => rfl
  | n+1, s, wf, off, h => by
    obtain ⟨v, hv, h1⟩ := dmaCopyByte_eq wf source off (by omega)
    obtain ⟨v', hv', h1'⟩ := dmaCopyByte_eq (s := { s with dma := d }) wf.congr source off (by omega)
    cases ok_inj hv hv'
    rw [dmaLoop_succ, dmaLoop_succ, h1, h1']
    simp only [Except.bind]
    cases h2 : Sys.ioRun s.io 4 with
    | error e => rfl
    | ok io2 =>
      have wf2 : WF { s with oam := s.oam.setIfInBounds off v, io := io2 } := wf.congr (ho := by simp)
      exact dmaLoop_dma source d n wf2 (off + 1) (by omega)

/-- an OAM DMA in progress has copied fewer than 160 bytes (a finished one is `none`) -/
def DmaOk (s : Bus.State) : Prop := ∀ src off, s.dma = some (src, off) → off < 0xa0

/-- **batch independence of `MemoryAreas::run_clock_cycles`**: `a + b` clocks in one call = `a` clocks, then `b` clocks —
the same OAM, the same timer, LCD position and frame count, joypad request, IF, DMA progress.  Any source page (the
I/O page included: every byte is read after the devices caught up with the previous machine cycle in both runs), any
progress, any `a ≥ 4`, `b` (whole machine cycles). -/
theorem dev_add {s : Bus.State} (wf : WF s) (ok : IoOk s.io) (hd : DmaOk s) (a b : Nat) (ha : a % 4 = 0) (hb : b % 4 = 0)
    (ha4 : 4 ≤ a) (hab : a + b < 2 ^ 32 - 65536) :
    Sys.dev s (a + b) = (Sys.dev s a).bind fun s1 => Sys.dev s1 b := by
  cases hdma : s.dma with
  | none =>
    rw [dev_none hdma, dev_none hdma, ioRun_add s.io a b ha hb hab ok]
    cases Sys.ioRun s.io a with
    | error e => rfl
    | ok io1 => exact (dev_none (s := { s with io := io1 }) hdma b).symm
  | some p =>
    obtain ⟨source, off⟩ := p
    have hoff : off < 0xa0 := hd source off hdma
    rw [dev_some hdma, dev_some hdma, clocks_split ha]
    by_cases hc : 0xa0 - off ≤ a / 4
    · -- the transfer ends inside the first batch: the second batch starts from `dma = none`
      obtain ⟨e3, e4⟩ := clocks_rest (b := b) ha hc
      obtain ⟨s1, h1, wf1, ok1, _⟩ := dmaLoop_keeps source (0xa0 - off) wf ok off (by omega)
      rw [(batch_done (r := b / 4) hc).1, (batch_done (r := b / 4) hc).2, h1, e3]
      show (Sys.ioRun s1.io _).bind _ = ((Sys.ioRun s1.io _).bind _).bind _
      rw [ioRun_add s1.io (a - 4 * (0xa0 - off)) b e4 hb (by omega) ok1]
      cases Sys.ioRun s1.io (a - 4 * (0xa0 - off)) with
      | error e => rfl
      | ok io1 =>
        exact (dev_none (s := { s1 with dma := if off + (0xa0 - off) < 0xa0 then some (source, off + (0xa0 - off)) else none,
                                        io := io1 }) (if_neg (by omega)) b).symm
    · -- the transfer is still running when the first batch ends: the catch-up of zero clocks that ends the first
      -- batch changes nothing, and the second batch continues the loop
      obtain ⟨e1, e2, e5, e6⟩ := batch_running (r := b / 4) hc
      obtain ⟨e3, e4⟩ := clocks_used (b := b) ha (min (0xa0 - (off + a / 4)) (b / 4))
      obtain ⟨s1, h1, wf1, ok1, st1⟩ := dmaLoop_keeps source (a / 4) wf ok off (Nat.le_of_lt e5)
      rw [e1, e2, dmaLoop_split, h1, e3, e4]
      show (Sys.dmaLoop s1 source (off + a / 4) (min (0xa0 - (off + a / 4)) (b / 4))).bind _ = ((Sys.ioRun s1.io 0).bind _).bind _
      rw [ioRun_zero ok1 (st1 (by omega))]
      refine Eq.trans ?_ (dev_some (s := { s1 with dma := if off + a / 4 < 0xa0 then some (source, off + a / 4) else none,
                                                   io := s1.io }) (if_pos e5) b).symm
      show _ = (Sys.dmaLoop { s1 with dma := _ } _ _ _).bind _
      rw [dmaLoop_dma source (if off + a / 4 < 0xa0 then some (source, off + a / 4) else none) _ (s := s1) wf1 _ e6]
      cases Sys.dmaLoop s1 source (off + a / 4) (min (0xa0 - (off + a / 4)) (b / 4)) with
      | error e => rfl
      | ok p => rfl

/-- the invariants of the batch theorem are kept by every catch-up -/
theorem dev_keeps {s s' : Bus.State} (wf : WF s) (ok : IoOk s.io) (hd : DmaOk s) {k : Nat} (h : Sys.dev s k = .ok s') :
    WF s' ∧ IoOk s'.io ∧ DmaOk s' := by
  rcases dev_elim h with ⟨hdma, io1, h1, rfl⟩ | ⟨source, off, s1, off', io1, hdma, h1, h2, rfl⟩
  · exact ⟨wf.congr, ioRun_ok ok h1, fun src off he => by rw [hdma] at he; cases he⟩
  · have hoff : off < 0xa0 := hd source off hdma
    obtain ⟨s1', h1', wf1, ok1, _⟩ := dmaLoop_keeps source (min (0xa0 - off) (k / 4)) wf ok off (by omega)
    cases ok_inj h1 h1'
    refine ⟨wf1.congr, ioRun_ok ok1 h2, fun src o he => ?_⟩
    simp only [] at he
    split at he
    · injection he with he; injection he with _ he; omega
    · cases he

theorem sum_mod4 : ∀ l : List Nat, (∀ x ∈ l, x % 4 = 0) → l.sum % 4 = 0
  | [], _ => rfl
  | x :: l, h => by
    have := h x List.mem_cons_self
    have := sum_mod4 l fun y hy => h y (List.mem_cons_of_mem _ hy)
    rw [List.sum_cons]; omega

def devBatches : List Nat → Bus.State → Except Bus.Panic Bus.State
  | [], s => .ok s
  | k :: ks, s => (Sys.dev s k).bind (devBatches ks)

/-- **any partition**: batches of whole machine cycles (each at least one) run one after the other leave the machine
where one batch of their sum leaves it -/
theorem dev_partition : ∀ (ks : List Nat) {s : Bus.State}, WF s → IoOk s.io → DmaOk s → ks ≠ [] →
    (∀ k ∈ ks, k % 4 = 0 ∧ 4 ≤ k) → ks.sum < 2 ^ 32 - 65536 → devBatches ks s = Sys.dev s ks.sum
  | [], _, _, _, _, hne, _, _ => absurd rfl hne
  | [k], s, _, _, _, _, _, _ => by
    simp only [devBatches, List.sum_cons, List.sum_nil, Nat.add_zero]
    cases Sys.dev s k <;> rfl
  | k :: k2 :: rest, s, wf, ok, hd, _, hks, hsum => by
    have hk := hks k List.mem_cons_self
    rw [List.sum_cons] at hsum ⊢
    rw [dev_add wf ok hd k (k2 :: rest).sum hk.1 (sum_mod4 _ fun x hx => (hks x (List.mem_cons_of_mem _ hx)).1) hk.2 hsum]
    show (Sys.dev s k).bind (devBatches (k2 :: rest)) = _
    cases h1 : Sys.dev s k with
    | error e => rfl
    | ok s1 =>
      simp only [Except.bind]
      obtain ⟨wf1, ok1, hd1⟩ := dev_keeps wf ok hd h1
      exact dev_partition (k2 :: rest) wf1 ok1 hd1 (by simp) (fun x hx => hks x (List.mem_cons_of_mem _ hx)) (by omega)

/-! ### what the passage of time can touch -/

/-- everything of the bus state except OAM, the I/O block and the DMA bookkeeping -/
def rest (s : Bus.State) : Cart.State × Nat × Array Nat × Array Nat × Array Nat × Array Nat × Nat :=
  (s.cart, s.romLen, s.vram, s.cram, s.wram, s.hram, s.dmaReg)

theorem dmaLoop_rest (source : Nat) : ∀ (n : Nat) {s : Bus.State} (_ : WF s) (off : Nat) (s' : Bus.State) (off' : Nat), off + n ≤ 0xa0 →
    Sys.dmaLoop s source off n = .ok (s', off') → rest s' = rest s ∧ s'.rom = s.rom
  | 0, s, _, off, s', off', _, h => by injection h with h; injection h with h1 _; subst h1; exact ⟨rfl, rfl⟩
  | n+1, s, wf, off, s', off', hb, h => by
    obtain ⟨v, _, h1⟩ := dmaCopyByte_eq wf source off (by omega)
    rw [dmaLoop_succ, h1] at h
    obtain ⟨io2, _, h⟩ := bind_ok_elim (f := fun io => Sys.dmaLoop { s with oam := _, io := io } source (off + 1) n) h
    have wf2 : WF { s with oam := s.oam.setIfInBounds off v, io := io2 } := wf.congr (ho := by simp)
    exact dmaLoop_rest source n wf2 (off + 1) s' off' (by omega) h

/-- **the passage of time touches OAM (only while a transfer runs), the I/O block and the DMA bookkeeping — nothing else**:
cartridge registers, ROM, video RAM, cartridge RAM, work RAM, high RAM are exactly as before -/
theorem dev_rest {s s' : Bus.State} (wf : WF s) (hd : DmaOk s) {k : Nat} (h : Sys.dev s k = .ok s') :
    rest s' = rest s ∧ s'.rom = s.rom ∧ (s.dma = none → s'.oam = s.oam) := by
  rcases dev_elim h with ⟨_, io1, _, rfl⟩ | ⟨source, off, s1, off', io1, hdma, h1, _, rfl⟩
  · exact ⟨rfl, rfl, fun _ => rfl⟩
  · have hoff := hd source off hdma
    obtain ⟨e1, e2⟩ := dmaLoop_rest source _ wf off s1 off' (by omega) h1
    exact ⟨e1, e2, fun hn => by rw [hdma] at hn; cases hn⟩

/-! ### bus writes keep the invariants of the batch theorem -/

theorem setByte_ioOk (io : Bus.Io) (a v : Nat) (ok : IoOk io) : IoOk (io.setByte a v) := by
  refine ⟨setByte_timerOk io a v ok.1, ?_⟩
  rcases (setByte_timer io a v).2 with e | e
  · rw [e]; exact ok.2
  · exact e

macro "wrd" h:ident : tactic => `(tactic| (
  obtain ⟨x, _, $h:ident⟩ := GbVerif.CoreProofs.bind_ok_elim $h:ident
  injection $h:ident with $h:ident; subst $h:ident; rfl))

theorem write_keeps {s s' : Bus.State} {a v : Nat} (ok : IoOk s.io) (hd : DmaOk s) (h : Bus.write s a v = .ok s') :
    IoOk s'.io ∧ DmaOk s' := by
  have e := write_effect h
  constructor
  · rcases e.io with e | e | e <;> rw [e]
    · exact ok
    · exact ok
    · exact setByte_ioOk _ _ _ ok
  · intro src off he
    rw [e.dma] at he
    split at he
    · injection he with he; injection he with _ he; omega
    · exact hd src off he

end GbVerif.SysProofs
