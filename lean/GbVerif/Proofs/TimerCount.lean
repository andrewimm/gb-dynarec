import GbVerif.Proofs.TimerRefine
/-!
Timer, part 3: how many times TIMA is clocked in `n` clocks (closed form), one tick per period for every
phase, exactly one interrupt request per overflow.
-/
namespace GbVerif.Timer
open GbVerif.TimerBits
open GbVerif.TimerSpec (Hw selBit period enabled signal tickTima tickTimaN)

theorem tickTimaN_elapsed : ∀ (m : Nat) (h : Hw) (e : Nat),
    tickTimaN m { h with elapsed := e } = ({ (tickTimaN m h).1 with elapsed := e }, (tickTimaN m h).2)
  | 0, h, e => rfl
  | m + 1, h, e => by
    simp only [tickTimaN]
    rw [tickTima_elapsed h e]
    simp only [tickTimaN_elapsed m (tickTima h).1 e]

theorem tickTimaN_frame : ∀ (m : Nat) (h : Hw),
    (tickTimaN m h).1.elapsed = h.elapsed ∧ (tickTimaN m h).1.tma = h.tma ∧ (tickTimaN m h).1.tac = h.tac
  | 0, h => ⟨rfl, rfl, rfl⟩
  | m + 1, h => by
    have h1 := tickTima_frame h
    have h2 := tickTimaN_frame m (tickTima h).1
    simp only [tickTimaN]
    exact ⟨by rw [h2.1, h1.1], by rw [h2.2.1, h1.2.1], by rw [h2.2.2, h1.2.2]⟩

theorem period_pos (v : Nat) : 0 < period v := Nat.two_pow_pos _

/-- Closed form, spec level: while enabled, `n` clocks from elapsed count `e` clock TIMA exactly
`⌊(e+n)/P⌋ − ⌊e/P⌋` times (`P` the selected period) and add `n` to the elapsed count.
A clock ticks TIMA exactly when the quotient `e / P` goes up (`fall_iff_div`); the quotients of `e`, `e + 1`
and `e + 1 + n` are ordered, so the counts add. -/
theorem spec_clocks_closed : ∀ (n : Nat) (h : Hw), enabled h.tac = true →
    TimerSpec.clocks n h =
      ({ (tickTimaN ((h.elapsed + n) / period h.tac - h.elapsed / period h.tac) h).1 with elapsed := h.elapsed + n },
       (tickTimaN ((h.elapsed + n) / period h.tac - h.elapsed / period h.tac) h).2)
  | 0, h, _ => by simp only [Nat.add_zero, Nat.sub_self, tickTimaN, TimerSpec.clocks]
  | n + 1, h, hen => by
    have hfall : (signal h && !signal { h with elapsed := h.elapsed + 1 }) =
        decide ((h.elapsed + 1) / period h.tac = h.elapsed / period h.tac + 1) := by
      unfold signal
      simp only [hen, Bool.and_true]
      exact fall_iff_div _ _
    have hb := div_succ_bounds h.elapsed (period h.tac) (period_pos _)
    have hm : (h.elapsed + 1) / period h.tac ≤ (h.elapsed + 1 + n) / period h.tac :=
      Nat.div_le_div_right (Nat.le_add_right _ _)
    simp only [TimerSpec.clocks]
    rw [spec_clock_eq, hfall, Nat.add_comm n 1, ← Nat.add_assoc]
    by_cases hd : (h.elapsed + 1) / period h.tac = h.elapsed / period h.tac + 1
    · rw [if_pos (decide_eq_true hd), spec_clocks_closed n _ (by rw [(tickTima_frame h).2.2]; exact hen)]
      simp only [tickTimaN_elapsed]
      simp only [(tickTima_frame h).2.2]
      rw [show (h.elapsed + 1 + n) / period h.tac - h.elapsed / period h.tac =
        ((h.elapsed + 1 + n) / period h.tac - (h.elapsed + 1) / period h.tac) + 1 by omega]
      rfl
    · rw [if_neg (by simpa using hd), spec_clocks_closed n { h with elapsed := h.elapsed + 1 } hen]
      simp only [tickTimaN_elapsed, Bool.false_or]
      rw [show (h.elapsed + 1) / period h.tac = h.elapsed / period h.tac by omega]

/-- while disabled nothing but the divider moves -/
theorem spec_clocks_disabled : ∀ (n : Nat) (h : Hw), enabled h.tac = false →
    TimerSpec.clocks n h = ({ h with elapsed := h.elapsed + n }, false)
  | 0, h, _ => by simp only [TimerSpec.clocks, Nat.add_zero]
  | n + 1, h, hen => by
    simp only [TimerSpec.clocks]
    have : TimerSpec.clock h = ({ h with elapsed := h.elapsed + 1 }, false) := by
      rw [spec_clock_eq]; unfold signal; simp [hen]
    rw [this]
    simp only []
    rw [spec_clocks_disabled n { h with elapsed := h.elapsed + 1 } hen]
    have : h.elapsed + 1 + n = h.elapsed + (n + 1) := by omega
    simp only [this, Bool.or_false]

/-- one period, any phase: exactly one TIMA tick -/
theorem spec_one_tick_per_period (h : Hw) (hen : enabled h.tac = true) :
    TimerSpec.clocks (period h.tac) h =
      ({ (tickTima h).1 with elapsed := h.elapsed + period h.tac }, (tickTima h).2) := by
  rw [spec_clocks_closed _ h hen, Nat.add_div_right _ (period_pos _), Nat.add_sub_cancel_left]
  simp [tickTimaN]

theorem period_cases (v : Nat) : period v = 16 ∨ period v = 64 ∨ period v = 256 ∨ period v = 1024 := by
  unfold period
  rcases selBit_cases v with e | e | e | e <;> rw [e] <;> simp

/-- overflow: with TIMA = 0xFF the request is made in exactly one clock of a period window: wherever the window
is cut in two, exactly one of the two parts reports it -/
theorem spec_overflow_once (h : Hw) (hen : enabled h.tac = true) (ht : h.tima = 255) (a b : Nat)
    (hab : a + b = period h.tac) :
    ((TimerSpec.clocks a h).2 != (TimerSpec.clocks b (TimerSpec.clocks a h).1).2) = true := by
  have fa := spec_clocks_elapsed a h
  have hen' : enabled (TimerSpec.clocks a h).1.tac = true := by rw [fa.2.1]; exact hen
  rw [spec_clocks_closed b _ hen', fa.1, fa.2.1]
  rw [spec_clocks_closed a h hen]
  have hcount : ((h.elapsed + a) / period h.tac - h.elapsed / period h.tac = 1 ∧
        (h.elapsed + a + b) / period h.tac - (h.elapsed + a) / period h.tac = 0) ∨
      ((h.elapsed + a) / period h.tac - h.elapsed / period h.tac = 0 ∧
        (h.elapsed + a + b) / period h.tac - (h.elapsed + a) / period h.tac = 1) := by
    have h1 : h.elapsed / period h.tac ≤ (h.elapsed + a) / period h.tac := Nat.div_le_div_right (Nat.le_add_right _ _)
    have h2 : (h.elapsed + a) / period h.tac ≤ (h.elapsed + a + b) / period h.tac :=
      Nat.div_le_div_right (Nat.le_add_right _ _)
    have h3 : (h.elapsed + a + b) / period h.tac = h.elapsed / period h.tac + 1 := by
      rw [Nat.add_assoc, hab, Nat.add_div_right _ (period_pos _)]
    omega
  have ht1 : (tickTima h).2 = true := by unfold tickTima; simp [ht]
  have ht2 : ∀ e, (tickTima { h with elapsed := e }).2 = true := by intro e; unfold tickTima; simp [ht]
  rcases hcount with ⟨c1, c2⟩ | ⟨c1, c2⟩
  · rw [c1, c2]; simp [tickTimaN, ht1]
  · rw [c1, c2]; simp [tickTimaN, ht2]

theorem Wf.period_of_ne {s : State} (w : Wf s) (hen : s.enabledMask ≠ 0) :
    enabled s.controlValue = true ∧ 2 * s.timerClockMask = period s.controlValue := by
  have he : enabled s.controlValue = true := by
    cases h : enabled s.controlValue
    · exact absurd (by rw [w.masks.1, h]; rfl) hen
    · rfl
  exact ⟨he, by rw [w.masks.2 he, Nat.mul_comm]; rfl⟩

/-- Model: one selected period of clocks from any divider phase, while enabled, is exactly one
`increment_counter` (TIMA + 1, or reload + interrupt when TIMA was 0xFF). -/
theorem run_period (s : State) (w : Wf s) (hen : s.enabledMask ≠ 0) :
    run (2 * s.timerClockMask) s =
      ({ (incrementCounter s).1 with cycleCount := (s.cycleCount + 2 * s.timerClockMask) % 65536 },
       (incrementCounter s).2) := by
  obtain ⟨he, hP⟩ : enabled (abs s).tac = true ∧ 2 * s.timerClockMask = period (abs s).tac := w.period_of_ne hen
  have r := refines_abs s w
  have rr := refines_run (2 * s.timerClockMask) r
  have ri := refines_inc r
  rw [hP, spec_one_tick_per_period (abs s) he] at rr
  have rt := refines_cc ri.1 ((abs s).elapsed + period (abs s).tac)
  have fi := incrementCounter_frame s
  have fr := run_frame (period (abs s).tac) s w.mask_lt
  rw [hP]
  apply Prod.ext
  · exact refines_inj rr.1 rt (by rw [fr.2.2.1]; exact fi.2.2.1.symm) (by rw [fr.2.2.2.1]; exact fi.2.2.2.1.symm)
  · rw [rr.2]; exact ri.2.symm

/-- Model: with TIMA = 0xFF, cut a period window anywhere: exactly one of the two batches returns the
timer interrupt flag. -/
theorem run_overflow_once (s : State) (w : Wf s) (hen : s.enabledMask ≠ 0) (hc : s.counter = 255) (a b : Nat)
    (hab : a + b = 2 * s.timerClockMask) :
    ((run a s).2 != (run b (run a s).1).2) = true := by
  obtain ⟨he, hP⟩ : enabled (abs s).tac = true ∧ 2 * s.timerClockMask = period (abs s).tac := w.period_of_ne hen
  have r := refines_abs s w
  have ra := refines_run a r
  have rb := refines_run b ra.1
  rw [ra.2, rb.2]
  exact spec_overflow_once (abs s) he hc a b (by rw [hab, hP])

end GbVerif.Timer
