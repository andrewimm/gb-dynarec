import GbVerif.Proofs.X86SimAlu2
import GbVerif.Proofs.X86SimCb
/-
C01, the data side, CB page: SLA r / SRA r / SRL r for the seven registers (21 encodings).  The template is
`shl|sar|shr r8, 1 ; <flag conversion keeping 0x6f of F, taking Z and C> ; and al, 0x9f`; as for INC / DEC the
register write and the flag conversion are separated.  `step_sh8_sim` (any `sh8` on a guest register) and `mkFl` serve the
rotates as well.
-/
namespace GbVerif.X86
open GbVerif.JitCycles GbVerif.Interp
variable {β : Type}

/-- the three one-bit shifts of the CB page -/
inductive Sh3 where | sla | sra | srl
deriving DecidableEq, Repr

def Sh3.host : Sh3 → ShOp
  | .sla => .shl | .sra => .sar | .srl => .shr

/-- the interpreter's primitive: (value, carry out) -/
def Sh3.res : Sh3 → Nat → Nat × Bool
  | .sla, v => Interp.sla v | .sra, v => Interp.sra v | .srl, v => Interp.srl v
def Sh3.op : Sh3 → Reg8 → Op
  | .sla, r => .ShiftLeft r | .sra, r => .ShiftRight r | .srl, r => .ShiftRightLogical r
def Sh3.base : Sh3 → Nat
  | .sla => 0x20 | .sra => 0x28 | .srl => 0x38
def opcodeSh (k : Sh3) (r : Reg8) : Nat := k.base + r8code r

/-- host flags with carry `c` and nothing else set: the representative the byte tables below are evaluated at -/
def mkFl (c : Bool) : Flags := ⟨c, false, false, false, false, false⟩

/-- host shift by one on a byte = the interpreter's primitive: value, ZF, CF (a 256-case kernel enumeration each) -/
theorem shOp_res (k : Sh3) (v : Nat) (hv : v < 256) (fl : Flags) :
    (shOp k.host 8 v 1 fl).1 = (k.res v).1 ∧ (shOp k.host 8 v 1 fl).2.zf = ((k.res v).1 == 0) ∧
    (shOp k.host 8 v 1 fl).2.cf = (k.res v).2 ∧ (k.res v).1 < 256 := by
  -- value and CF do not depend on the flags before, ZF is that of the value
  have e : (shOp k.host 8 v 1 fl).1 = (shOp k.host 8 v 1 (mkFl false)).1 ∧ (shOp k.host 8 v 1 fl).2.zf = ((shOp k.host 8 v 1 (mkFl false)).1 == 0) ∧
      (shOp k.host 8 v 1 fl).2.cf = (shOp k.host 8 v 1 (mkFl false)).2.cf := by cases k <;> exact ⟨rfl, rfl, rfl⟩
  have := Enum.forall_lt_of_allRange (fun v => (shOp k.host 8 v 1 (mkFl false)).1 == (k.res v).1 &&
    ((shOp k.host 8 v 1 (mkFl false)).2.cf == (k.res v).2) && decide ((k.res v).1 < 256)) 8 (by cases k <;> decide +kernel) v hv
  simp only [Bool.and_eq_true, beq_iff_eq, decide_eq_true_eq] at this
  rw [e.1, e.2.1, e.2.2, this.1.1]
  exact ⟨rfl, rfl, this.1.2, this.2⟩

/-- `op r8, c` on the host location of a guest register, when the result `x` fits a byte: the register write and the host flags -/
theorem step_sh8_sim (B : BusOps β) (op : ShOp) (c : Nat) (hc : c < 256) (r : Reg8) {g : Regs} {st s1 : St β} {len x : Nat} (hs : Sim g st)
    (hx : (shOp op 8 (getReg g r) c st.fl).1 = x) (hlt : x < 256) (h : step B st (.sh8 op (hostR8 r) c) len = .ok s1) :
    Sim (setReg g r x) s1 ∧ Untouched st s1 ∧ s1.fl = (shOp op 8 (getReg g r) c st.fl).2 := by
  have hu := untouched_step B h rfl (fun e => hostR8_ne14 r (Option.some.inj e))
  have e : step B st (.sh8 op (hostR8 r) c) len =
      .ok { set8 ({ st with pc := st.pc + len } : St β) (hostR8 r)
              (shOp op 8 (get8 st (hostR8 r)) (tokVal ({ st with pc := st.pc + len } : St β) c) st.fl).1 with
            fl := (shOp op 8 (get8 st (hostR8 r)) (tokVal ({ st with pc := st.pc + len } : St β) c) st.fl).2 } := rfl
  rw [e, tokVal_small _ c hc, get8_sim hs r, hx] at h
  cases Except.ok.inj h
  exact ⟨sim_fl (set8_sim (sim_pc hs _) r _ hlt) _, hu, rfl⟩

/-- the F byte after the conversion and `and al, 0x9f` = the interpreter's `flagsRot` byte -/
theorem fRot_eq (f : Nat) (z c : Bool) :
    bitop .and ((f &&& 0x6f) ||| ((if z then 0x80 else 0) + (if c then 0x10 else 0))) 0x9f =
      (((f &&& 0x0f) ||| (if c then 0x10 else 0)) ||| (if z then 0x80 else 0)) := by
  show (_ ||| _) &&& 0x9f = _
  rw [and_or_mask, Nat.or_assoc]; cases z <;> cases c <;> rfl

theorem table_sh (k : Sh3) (r : Reg8) (b2 : Nat) :
    decodeCode (Gen.emitCb (opcodeSh k r)) = some ((((0, Instr.sh8 k.host (hostR8 r) 1) :: pipeAt (aluOff' 2) 0x6f 0x90) ++ [(31, Instr.alu8i AluOp.and (R8.lo 0) 0x9f)]) ++ [(33, addIp 2), (37, addCy 2)]) ∧
    bytesOf (Gen.emitCb (opcodeSh k r)) = 41 ∧ Gen.decode 0xcb (opcodeSh k r) b2 = (k.op r, 2, 8) := by
  rw [decode_cb]
  revert r
  cases k <;> exact forall_reg8 (by decide +kernel)

/-- the body of SLA / SRA / SRL r: `shl|sar|shr r8, 1`, the flag conversion keeping 0x6f of F and taking Z and C, `and al, 0x9f` -/
theorem sh_body (B : BusOps β) (k : Sh3) (r : Reg8) (o : Nat → Nat) (e : Nat) (g : Regs) (st s3 : St β) (hs : Sim g st)
    (hex : execList B e (((o 0, .sh8 k.host (hostR8 r) 1) :: pipeAt o 0x6f 0x90) ++ [(o 10, .alu8i .and (.lo 0) 0x9f)]) st = .ok s3) :
    Sim (flagsRot (setReg g r (k.res (getReg g r)).1) (k.res (getReg g r)) true) s3 ∧ Untouched st s3 := by
  obtain ⟨s1, h1, hex2⟩ := execList_cons B _ _ _ (pipeAt o 0x6f 0x90 ++ [(o 10, .alu8i .and (.lo 0) 0x9f)]) _ _ hex
  obtain ⟨hv, hz, hc, hlt⟩ := shOp_res k (getReg g r) (getReg_lt g r) st.fl
  obtain ⟨hs1, hu1, hfl⟩ := step_sh8_sim B k.host 1 (by decide) r hs hv hlt h1
  obtain ⟨q1, q2⟩ := pipe_al_sim B .and (Or.inl rfl) 0x6f 0x90 0x9f (by decide) (by decide) (by decide) o e hs1
    (sameButAf_flagsRot _ _) (rotFlags_pack _ (k.res (getReg g r)))
    (by rw [(conv_take _).2.1, hfl, hz, hc]; exact fRot_eq _ _ _) hex2
  exact ⟨q1, hu1.trans q2⟩

/-- **SLA r, SRA r, SRL r** (3 x 7 registers): all states -/
theorem sim_sh (k : Sh3) (r : Reg8) (b2 : Nat) : SimulatesCb (opcodeSh k r) b2 :=
  SimulatesCb.intro (table_sh k r b2) rfl (by decide) (by decide) rfl fun B g _ _ hs hex =>
    ⟨_, fun _ => by cases k <;> rfl, sh_body B k r (aluOff' 2) 33 g _ _ hs hex⟩

end GbVerif.X86
