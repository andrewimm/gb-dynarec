import GbVerif.Proofs.X86Host
/-!
"Templates cannot go wrong": the generic path walk also bounds the FAULTS of a run.  If the transfer function refuses
every instruction whose step could fault for a reason other than a bus panic (`Safe`), then every run of the code with
enough fuel either completes or stops with the panic of a bus access — it never pops below its frame, reads or writes
outside its own stack slots, calls through an unknown pointer, lands between instructions, leaves the code, or runs
out of fuel.
-/
namespace GbVerif.X86
open GbVerif.JitCycles GbVerif.JitPaths GbVerif.X86Wf
variable {β : Type} {A : Type}

theorem paths_safe (B : Interp.BusOps β) (tr : Instr → A → Option A) (R : A → St β → Prop) (hC : Carries B tr R)
    (hS : Safe B tr R) (code : List (Nat × Instr)) (endOff : Nat) (hok : codeOk code endOff = true) :
    ∀ (fa i : Nat) (a : A) (L : List A), paths tr code endOff i fa a = some L →
    ∀ (fr : Nat) (s : St β) (e : Fault), s.r.size = 16 → s.pc = offAt code endOff i → R a s → code.length < i + fr →
      run B code endOff fr s = .error e → isBus e := by
  intro fa i a L h fr s e hsz hpc hR hfuel hrun
  have := paths_run B tr R hC code endOff hok fa i a L h fr s hsz hpc hR
  rw [hrun] at this
  exact this hS hfuel

/-- a fault of the helper call is a bus panic, once rdi holds the memory base and rax one of the five helper pointers -/
theorem callBus_error (B : Interp.BusOps β) (s : St β) (e : Fault) (p : Nat) (hp1 : 513 ≤ p) (hp2 : p ≤ 517)
    (hrax : get s 0 = ptrVal p) (hrdi : get s 7 = ptrVal 512) (h : callBus B s = .error e) : isBus e := by
  unfold callBus at h
  simp only [bind, Except.bind, pure, Except.pure] at h
  split at h
  · rename_i hne
    rw [hrdi] at hne
    simp at hne
  · split at h
    · rename_i e' he
      cases h
      rw [hrax] at he
      have hs := helperCall_shape B s.bus p ((get s 6).toNat % 65536) (get s 2).toNat hp1 hp2
      rw [he] at hs
      obtain ⟨pe, rfl⟩ := hs
      trivial
    · split at h
      · rename_i e' he
        exfalso
        -- the clobber loop cannot fail
        have : ∀ (l : List Nat) (s0 : St β) (e : Fault),
            forIn l s0 (fun i s => (Except.ok (ForInStep.yield (set (nextJunk s).2 i (nextJunk s).1)) : Except Fault _)) ≠ Except.error e := by
          intro l
          induction l with
          | nil => intro s0 e h; simp only [List.forIn_nil, pure, Except.pure] at h; cases h
          | cons i l ih => intro s0 e h; simp only [List.forIn_cons, bind, Except.bind] at h; exact ih _ _ h
        exact this _ _ _ he
      · cases h

theorem host_safe (B : Interp.BusOps β) (stack0 : List W) (rbp0 : W) :
    Safe B JitHost.trHost (HostRel (β := β) stack0 rbp0) where
  step := by
    intro ins a a' s len e hj1 hj2 htr hR hsz hstep
    obtain ⟨hlen, hdrop, hrbp, hrax, hrdi⟩ := hR
    obtain ⟨habs, hal⟩ := trHost_ok htr
    have hneeds := (absStep_ok habs).checks
    -- an access to a slot the template has pushed, within the slot, does not fault
    have slot : ∀ {d n : Nat}, d / 8 < a.depth → d % 8 + n ≤ 8 →
        (∃ v, stackRead { s with pc := s.pc + len } d n = .ok v) ∧
        ∀ v, ∃ s', stackWrite { s with pc := s.pc + len } d n v = .ok s' :=
      fun hd hn => stack_access hn (Nat.lt_of_lt_of_le hd (hlen ▸ Nat.le_add_left _ _))
    cases ins
    case load sz r base disp =>
      obtain ⟨rfl, hb⟩ : base = 4 ∧ disp / 8 < a.depth := hneeds.1
      obtain ⟨v, hv⟩ := (slot hb (hal sz r 4 disp (.inl rfl))).1
      simp only [step, beq_self_eq_true, if_true, hv] at hstep
      cases hstep
    case store sz base disp src =>
      obtain ⟨rfl, hb⟩ : base = 4 ∧ disp / 8 < a.depth := hneeds.1
      obtain ⟨s', hs'⟩ := (slot hb (hal sz src 4 disp (.inr rfl))).2 (getSz { s with pc := s.pc + len } sz src)
      simp only [step, beq_self_eq_true, if_true, hs'] at hstep
      cases hstep
    case store8 base disp src =>
      obtain ⟨rfl, hb⟩ : base = 4 ∧ disp / 8 < a.depth := hneeds.1
      obtain ⟨s', hs'⟩ := (slot hb (by omega : disp % 8 + 1 ≤ 8)).2 (get8 { s with pc := s.pc + len } src)
      simp only [step, beq_self_eq_true, if_true, hs'] at hstep
      cases hstep
    case pop | popf =>
      simp only [step] at hstep
      split at hstep
      · cases hstep
      · rename_i hs
        rw [hs, List.length_nil] at hlen
        exact (hneeds.1 (by omega)).elim
    case callRax =>
      obtain ⟨hc1, hc2⟩ : a.raxPtr = true ∧ a.rdiMem = true := hneeds.1
      obtain ⟨p, hp1, hp2, hp3⟩ := hrax hc1
      exact callBus_error B ({ s with pc := s.pc + len } : St β) e p hp1 hp2 hp3 (hrdi hc2) hstep
    case jmpReg | ret => exact hneeds.elim
    all_goals cases hstep

theorem analyse_safe (B : Interp.BusOps β) (tr : Instr → A → Option A) (init : A) (fin : A → Option Nat)
    (R : A → St β → Prop) (hC : Carries B tr R) (hS : Safe B tr R)
    (tokens : List Nat) (code : List (Nat × Instr)) (C : List Nat)
    (hdec : decodeCode tokens = some code) (hA : analyse tr init fin tokens = some C)
    (fr : Nat) (s : St β) (e : Fault) (hsz : s.r.size = 16) (hpc : s.pc = offAt code (bytesOf tokens) 0) (hR : R init s)
    (hfuel : code.length < fr) (hrun : run B code (bytesOf tokens) fr s = .error e) : isBus e := by
  unfold analyse at hA
  rw [hdec] at hA
  simp only [] at hA
  cases hL : paths tr code (bytesOf tokens) 0 (code.length + 2) init with
  | none => rw [hL] at hA; cases hA
  | some L =>
    exact paths_safe B tr R hC hS code (bytesOf tokens) (decodeCode_codeOk hdec).1 _ 0 init L hL fr s e hsz hpc hR (by omega) hrun

/-- **templates cannot go wrong**: a run of a template with more fuel than it has instructions either completes or stops
with the panic of a bus access -/
theorem hostOk_safe (B : Interp.BusOps β) (tokens : List Nat) (code : List (Nat × Instr)) (C : List Nat)
    (hdec : decodeCode tokens = some code) (hok : codeOk code (bytesOf tokens) = true) (hC : JitHost.hostOk tokens = some C)
    (fr : Nat) (s : St β) (e : Fault) (hsz : s.r.size = 16) (hpc : s.pc = offAt code (bytesOf tokens) 0)
    (hfuel : code.length < fr) (hrun : run B code (bytesOf tokens) fr s = .error e) : isBus e := by
  exact analyse_safe B JitHost.trHost {} (fun a => if a.depth == 0 then some 0 else none) _
    (host_carries' B s.stack (get s 5)) (host_safe B s.stack (get s 5)) tokens code C hdec hC fr s e hsz hpc (hostRel_init s) hfuel
    hrun

end GbVerif.X86
