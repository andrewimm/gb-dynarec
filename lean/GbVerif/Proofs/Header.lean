import GbVerif.Model.Header
import GbVerif.Spec.Header
import GbVerif.Proofs.Enum
/-!
Lemmas for C19: the checksum fold, the regenerated size and type tables against the standard, and (in namespace
`GbVerif.Header`) the title text that `Header::get_title` puts on the Loading line, `utf8Lossy`.
-/
namespace GbVerif.HeaderProofs
open GbVerif.Header GbVerif.Gen.HeaderTables GbVerif.HeaderSpec

/-- The wrapping fold, for any index list and any start value: adding back `Σ (b_i + 1)` gives the start value. -/
theorem checkLoop_sum (h : Header) (idx : List Nat) : ∀ c, c < 256 →
    checkLoop h c idx < 256 ∧ (checkLoop h c idx + (idx.map (fun i => h.byte i + 1)).sum) % 256 = c := by
  induction idx with
  | nil => intro c hc; simp [checkLoop]; omega
  | cons x xs ih =>
    intro c hc
    have hstep : wsub (wsub c (h.byte x)) 1 < 256 := by unfold wsub; omega
    obtain ⟨h1, h2⟩ := ih _ hstep
    have e : checkLoop h c (x :: xs) = checkLoop h (wsub (wsub c (h.byte x)) 1) xs := rfl
    rw [e]
    refine ⟨h1, ?_⟩
    simp only [List.map_cons, List.sum_cons]
    unfold wsub at h2 ⊢
    omega

/-- model fold = spec fold (the spec indexes the file, the model the buffer read at `headerFileOffset`) -/
theorem checkLoop_shift (f : RomFile) (idx : List Nat) (c : Nat) :
    checkLoop (headerOf f) c idx =
      (idx.map (headerFileOffset + ·)).foldl (fun x i => HeaderSpec.sub8 (HeaderSpec.sub8 x (f.byte i)) 1) c := by
  induction idx generalizing c with
  | nil => rfl
  | cons x xs ih =>
    simp only [checkLoop, List.foldl_cons, List.map_cons] at ih ⊢
    rw [ih]
    rfl

theorem le_ite {n a b : Nat} {c : Prop} [Decidable c] (ha : n ≤ a) (hb : n ≤ b) : n ≤ if c then a else b := by
  split <;> assumption

/-- every arm of `Header::get_rom_bank_count`, the wildcard included, gives at least 2 banks -/
theorem romBanks_pos (code : Nat) : 2 ≤ romBanks code := by
  unfold romBanks
  repeat' apply le_ite
  all_goals decide

/-- the standard's controller as the code's cartridge-state tag -/
def kindCode : Controller → Nat
  | .romOnly => 0 | .mbc1 => 1 | .mbc3 => 3 | _ => 99

/-- one code, all three regenerated tables against the standard (Bool, for kernel enumeration) -/
def tablesOk (code : Nat) : Bool :=
  (match romBanks? code with
   | some n => romBanks code == n && romBytes? code == some (romBanks code * romBankBytes)
   | none => romBanks code == 2 && romBytes? code == none) &&
  (match HeaderSpec.ramBytes? code with
   | some n => ramBytes code == n
   | none => ramBytes code == 0) &&
  (match cartKind code with
   | some k => (match controller? code with
                | some c => implemented c && kindCode c == k
                | none => false)
   | none => true)

theorem tablesOk_all (code : Nat) (h : code < 256) : tablesOk code = true :=
  Enum.forall_lt_of_allRange tablesOk 8 (by decide +kernel) code h

theorem ite_none {α : Type} {c : Prop} [Decidable c] {a b : Option α} (hc : ¬ c) (hb : b = none) :
    (if c then a else b) = none := by
  rw [if_neg hc]; exact hb

/-- the tables only have entries for byte values -/
theorem cartKind_big (t : Nat) (h : 256 ≤ t) : cartKind t = none := by
  unfold cartKind
  repeat' apply ite_none
  all_goals first | rfl | omega

theorem romBytes?_big (code : Nat) (h : 256 ≤ code) : romBytes? code = none := by
  unfold romBytes?
  repeat' apply ite_none
  all_goals first | rfl | omega

/-- a type byte the code builds a cartridge state for is a supported type of the standard (any `Nat`) -/
theorem cartKind_supported (t k : Nat) (h : cartKind t = some k) : typeSupported t = true := by
  have ht : t < 256 := Nat.lt_of_not_le fun hge => by rw [cartKind_big t hge] at h; cases h
  have T := (Bool.and_eq_true _ _ ▸ tablesOk_all t ht).2
  rw [h] at T
  unfold typeSupported
  cases hc : controller? t with
  | none => rw [hc] at T; cases T
  | some c => rw [hc] at T; exact (Bool.and_eq_true _ _ ▸ T).1

/-- a standard ROM size is exactly what the code computes from the same code byte (any `Nat`) -/
theorem romBytes_eq (code n : Nat) (h : romBytes? code = some n) : n = romBanks code * romBankBytes := by
  have hc : code < 256 := Nat.lt_of_not_le fun hge => by rw [romBytes?_big code hge] at h; cases h
  have t := tablesOk_all code hc
  simp only [tablesOk, Bool.and_eq_true] at t
  have t1 := t.1.1
  cases hb : romBanks? code with
  | none => rw [hb] at t1; simp [h] at t1
  | some m => rw [hb] at t1; simp [h] at t1; exact t1.2

end GbVerif.HeaderProofs

namespace GbVerif.Header

theorem lossyAux_ascii : ∀ (fuel : Nat) (l : List Nat), l.length ≤ fuel → (∀ b ∈ l, b < 0x80) → lossyAux fuel l = l
  | 0, l, hl, _ => by
    have : l = [] := List.eq_nil_of_length_eq_zero (by omega)
    subst this; rfl
  | fuel+1, [], _, _ => rfl
  | fuel+1, b :: bs, hl, h => by
    have hb := h b List.mem_cons_self
    have e : decodeOne b bs = ([b], 1) := by unfold decodeOne; rw [if_pos hb]
    show (decodeOne b bs).1 ++ lossyAux fuel (bs.drop ((decodeOne b bs).2 - 1)) = b :: bs
    rw [e]
    show [b] ++ lossyAux fuel (bs.drop 0) = b :: bs
    rw [List.drop_zero, lossyAux_ascii fuel bs (by simp only [List.length_cons] at hl; omega) (fun x hx => h x (List.mem_cons_of_mem _ hx))]
    rfl

/-- the Loading line shows an ASCII title as it is in the file -/
theorem utf8Lossy_ascii (l : List Nat) (h : ∀ b ∈ l, b < 0x80) : utf8Lossy l = l :=
  lossyAux_ascii l.length l (Nat.le_refl _) h

/-- a chunk that is copied from the front of the input `l` or is U+FFFD -/
def FromInput (l : List Nat) (r : List Nat × Nat) : Prop := r.1 = replacement ∨ r.1 <+: l

theorem fromInput_ite {l : List Nat} {c : Prop} [Decidable c] {a b : List Nat × Nat}
    (ha : FromInput l a) (hb : FromInput l b) : FromInput l (if c then a else b) := by
  split <;> assumption

theorem decodeOne_cases (b0 : Nat) (rest : List Nat) : FromInput (b0 :: rest) (decodeOne b0 rest) := by
  rcases rest with _ | ⟨b1, _ | ⟨b2, _ | ⟨b3, r4⟩⟩⟩ <;> unfold decodeOne <;> repeat' apply fromInput_ite
  all_goals first | exact Or.inl rfl | exact Or.inr ⟨_, rfl⟩

theorem decodeOne_bytes (b0 : Nat) (rest : List Nat) : ∀ x ∈ (decodeOne b0 rest).1, x ∈ b0 :: rest ∨ x ∈ replacement := by
  intro x hx
  rcases decodeOne_cases b0 rest with e | pre
  · exact Or.inr (e ▸ hx)
  · exact Or.inl (pre.subset hx)

/-- whatever the title bytes are, every byte `get_title` yields is a byte of the title or of U+FFFD (nothing else of
the header or of memory gets into the Loading line) -/
theorem lossyAux_bytes : ∀ (fuel : Nat) (l : List Nat), ∀ x ∈ lossyAux fuel l, x ∈ l ∨ x ∈ replacement := by
  intro fuel
  induction fuel with
  | zero => intro l x hx; cases hx
  | succ n ih =>
    intro l x hx
    cases l with
    | nil => cases hx
    | cons b0 rest =>
      have hx' : x ∈ (decodeOne b0 rest).1 ++ lossyAux n (rest.drop ((decodeOne b0 rest).2 - 1)) := hx
      rcases List.mem_append.mp hx' with h | h
      · exact decodeOne_bytes b0 rest x h
      · rcases ih _ x h with h | h
        · exact Or.inl (List.mem_cons_of_mem _ (List.mem_of_mem_drop h))
        · exact Or.inr h

theorem mem_trimNul {x : Nat} {l : List Nat} (h : x ∈ trimNul l) : x ∈ l := by
  unfold trimNul at h
  exact List.mem_reverse.mp ((List.dropWhile_sublist _).subset (List.mem_reverse.mp h))

end GbVerif.Header
