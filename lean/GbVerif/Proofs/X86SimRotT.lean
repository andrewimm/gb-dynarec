import GbVerif.Proofs.X86SimRot
import GbVerif.Proofs.X86SimAdc
/-
C01, the data side: the rotates through carry.  RLA / RRA (`and al, 0x10 ; add al, 0xf0` moves the guest's C into the host's
CF and destroys F; `rcl|rcr ah, 1 ; <flag conversion taking C> ; and al, 0x1f`) and, on the CB page, RL r / RR r: the same,
then the Z tail of the circular rotates.  The template clears F's low nibble (the interpreter keeps it), hence the
hypothesis `g.af % 16 = 0` as for ADC / SBC / BIT.
-/
namespace GbVerif.X86
open GbVerif.JitCycles GbVerif.Interp
variable {β : Type}

theorem regs_eq (a b : Regs) (h0 : a.af = b.af) (h1 : a.bc = b.bc) (h2 : a.de = b.de) (h3 : a.hl = b.hl) (h4 : a.sp = b.sp)
    (h5 : a.ip = b.ip) (h6 : a.cycles = b.cycles) : a = b := by
  cases a; cases b; simp_all

/-- the two rotates through carry -/
inductive Rt2 where | rl | rr
deriving DecidableEq, Repr

def Rt2.host : Rt2 → ShOp
  | .rl => .rcl | .rr => .rcr
def Rt2.res : Rt2 → Nat → Nat → Nat × Bool
  | .rl, v, af => rlThrough v af | .rr, v, af => rrThrough v af

/-- host rotate through carry by one on a byte = the interpreter's primitive (a 256-case kernel enumeration for each
rotate and carry) -/
theorem rotT_tab (k : Rt2) (c : Bool) (v : Nat) (hv : v < 256) :
    (shOp k.host 8 v 1 (mkFl c)).1 = (k.res v (if c then 16 else 0)).1 ∧
    (shOp k.host 8 v 1 (mkFl c)).2.cf = (k.res v (if c then 16 else 0)).2 ∧ (k.res v (if c then 16 else 0)).1 < 256 := by
  have := Enum.forall_lt_of_allRange (fun v => (shOp k.host 8 v 1 (mkFl c)).1 == (k.res v (if c then 16 else 0)).1 &&
    ((shOp k.host 8 v 1 (mkFl c)).2.cf == (k.res v (if c then 16 else 0)).2) && decide ((k.res v (if c then 16 else 0)).1 < 256)) 8
    (by cases k <;> cases c <;> decide +kernel) v hv
  simp only [Bool.and_eq_true, beq_iff_eq, decide_eq_true_eq] at this
  exact ⟨this.1.1, this.1.2, this.2⟩

/-- the interpreter's through-carry rotates read only bit 4 of AF: the carry that `and al, 0x10 ; add al, 0xf0` produces -/
theorem Rt2.res_bit4 (k : Rt2) (v af : Nat) :
    k.res v af = k.res v (if decide ((af % 256 &&& 16) + 240 + 0 ≥ 256) then 16 else 0) := by
  have h : af &&& 0x10 = (if decide ((af % 256 &&& 16) + 240 + 0 ≥ 256) then 16 else 0) &&& 0x10 := by
    rw [and10_mod af]
    rcases and_16 (af % 256) (Nat.mod_lt _ (by decide)) with h | h <;> rw [h] <;> rfl
  cases k
  · show (u8 (v <<< 1) ||| ((af &&& 0x10) >>> 4), _) = (u8 (v <<< 1) ||| ((_ &&& 0x10) >>> 4), _); rw [h]
  · show ((v >>> 1) ||| u8 ((af &&& 0x10) <<< 3), _) = ((v >>> 1) ||| u8 ((_ &&& 0x10) <<< 3), _); rw [h]

theorem rotT_lt (k : Rt2) (v : Nat) (hv : v < 256) (af : Nat) : (k.res v af).1 < 256 := by
  rw [k.res_bit4]; exact (rotT_tab k _ v hv).2.2

theorem rotT_res (k : Rt2) (v : Nat) (hv : v < 256) (af : Nat) (fl : Flags)
    (hcf : fl.cf = decide ((af % 256 &&& 16) + 240 + 0 ≥ 256)) :
    (shOp k.host 8 v 1 fl).1 = (k.res v af).1 ∧ (shOp k.host 8 v 1 fl).2.cf = (k.res v af).2 ∧ (k.res v af).1 < 256 := by
  have e : (shOp k.host 8 v 1 fl).1 = (shOp k.host 8 v 1 (mkFl fl.cf)).1 ∧
      (shOp k.host 8 v 1 fl).2.cf = (shOp k.host 8 v 1 (mkFl fl.cf)).2.cf := by cases k <;> exact ⟨rfl, rfl⟩
  rw [e.1, e.2, k.res_bit4 v af, ← hcf]
  exact rotT_tab k fl.cf v hv

theorem af16_flagsRot {g1 : Regs} (res : Nat × Bool) (b : Bool) (h : g1.af % 16 = 0) : (flagsRot g1 res b).af % 16 = 0 := by
  have hc : (testCarry (applyMask g1 0xf0) res.2).af % 16 = 0 := af16_orIf _ (and_mod16 _ h) rfl
  cases b
  · exact hc
  · exact af16_orIf (res.1 == 0) hc rfl

theorem getA_setReg_af (g : Regs) (af' : Nat) (r : Reg8) (x : Nat) (hx : x < 256) (hA : af' / 256 % 256 = g.af / 256 % 256) :
    getReg (setReg { g with af := af' } r x) .A = getReg (setReg g r x) .A := by
  cases r
  · rw [getReg_setReg_self _ _ _ hx, getReg_setReg_self _ _ _ hx]
  all_goals exact getReg_af g af' .A hA

/-- the carry preamble changes F only: what the rest computes from the changed register file is what the interpreter
computes from the original one, when both F bytes have a clear low nibble -/
theorem flagsRot_af_irrel (g : Regs) (af' : Nat) (r : Reg8) (x : Nat) (hx : x < 256) (res : Nat × Bool) (b : Bool)
    (hA : af' / 256 % 256 = g.af / 256 % 256) (h1 : af' % 16 = 0) (h2 : g.af % 16 = 0) :
    flagsRot (setReg { g with af := af' } r x) res b = flagsRot (setReg g r x) res b := by
  -- the two register files differ in F's low nibble and above bit 15 of AF at most: the mask 0xf0 removes both
  have hm : applyMask (setReg { g with af := af' } r x) 0xf0 = applyMask (setReg g r x) 0xf0 := by
    apply regs_eq
    · rw [applyMask_f0, applyMask_f0, getA_setReg_af g af' r x hx hA, af_setReg_lo, af_setReg_lo, and_0f, and_0f]
      show _ + af' % 256 % 16 = _ + g.af % 256 % 16
      omega
    all_goals cases r <;> rfl
  unfold flagsRot
  rw [hm]

/-- the carry preamble, `rcl|rcr r8, 1 ; <flag conversion keeping 0xef of F, taking C> ; and al, 0x1f`, at any offsets -/
def rottBodyAt (k : Rt2) (r : Reg8) (oa ob oc : Nat) (o : Nat → Nat) : List (Nat × Instr) :=
  [(oa, Instr.alu8i AluOp.and (R8.lo 0) 16), (ob, Instr.alu8i AluOp.add (R8.lo 0) 240)] ++
    (((oc, Instr.sh8 k.host (hostR8 r) 1) :: pipeAt o 0xef 0x10) ++ [(o 10, Instr.alu8i AluOp.and (R8.lo 0) 0x1f)])

/-- `rottBodyAt` where the templates of RLA / RRA / RL r / RR r have it -/
def rottBody (k : Rt2) (r : Reg8) : List (Nat × Instr) :=
  carryPre ++ (((4, Instr.sh8 k.host (hostR8 r) 1) :: pipeAt (aluOff' 6) 0xef 0x10) ++ [(35, Instr.alu8i AluOp.and (R8.lo 0) 0x1f)])

theorem rottBody_eq (k : Rt2) (r : Reg8) : rottBody k r = rottBodyAt k r 0 2 4 (aluOff' 6) := rfl

/-- carry in, rotate, carry out: the common part of RLA / RRA / RL r / RR r.  The preamble leaves a changed F in al, so the
rotate and the conversion run from a state related to `g` with that AF; `flagsRot_af_irrel` brings the result back to `g`. -/
theorem rott_sim (B : BusOps β) (k : Rt2) (r : Reg8) (oa ob oc : Nat) (o : Nat → Nat) (e : Nat) (g : Regs) (st s3 : St β) (hs : Sim g st)
    (h0 : g.af % 16 = 0) (hex : execList B e (rottBodyAt k r oa ob oc o) st = .ok s3) :
    Sim (flagsRot (setReg g r (k.res (getReg g r) g.af).1) (k.res (getReg g r) g.af) false) s3 ∧ Untouched st s3 := by
  obtain ⟨s2, hpre, hex2⟩ := execList_append B e _ _ st s3 hex
  obtain ⟨hs2, hA, hlo, hcf, hu2, _⟩ := pre_carry_sim B oa ob _ hs hpre
  have hz : (get s2 0).toNat % 16 = 0 := by
    have : (get s2 0).toNat % 256 &&& 15 = (get s2 0).toNat % 256 % 16 := and_0f _
    omega
  have hget := getReg_af g _ r hA
  obtain ⟨s1, h1, hex4⟩ := execList_cons B _ _ _ (pipeAt o 0xef 0x10 ++ [(o 10, Instr.alu8i AluOp.and (R8.lo 0) 0x1f)]) _ _ hex2
  obtain ⟨hv, hc, hlt⟩ := rotT_res k (getReg g r) (getReg_lt g r) g.af s2.fl hcf
  obtain ⟨hs1, hu1, hfl⟩ := step_sh8_sim B k.host 1 (by decide) r hs2 (by rw [hget]; exact hv) hlt h1
  rw [hget] at hfl
  obtain ⟨q1, q2⟩ := rot_tail B o e (k.res (getReg g r) g.af) hs1 (hfl ▸ hc) hex4
  rw [flagsRot_af_irrel g _ r _ hlt _ false hA hz h0] at q1
  exact ⟨q1, (hu2.trans hu1).trans q2⟩

theorem rott_body_at (B : BusOps β) (k : Rt2) (r : Reg8) (oa ob oc : Nat) (o : Nat → Nat) (e : Nat) (g : Regs) (st s3 : St β) (hs : Sim g st) (h0 : g.af % 16 = 0)
    (hex : execList B e (rottBodyAt k r oa ob oc o) st = .ok s3) :
    ∃ af', af' / 256 % 256 = g.af / 256 % 256 ∧ af' % 16 = 0 ∧
      Sim (flagsRot (setReg { g with af := af' } r (k.res (getReg g r) g.af).1) (k.res (getReg g r) g.af) false) s3 ∧ Untouched st s3 :=
  ⟨g.af, rfl, h0, rott_sim B k r oa ob oc o e g st s3 hs h0 hex⟩

theorem rott_body (B : BusOps β) (k : Rt2) (r : Reg8) (e : Nat) (g : Regs) (st s3 : St β) (hs : Sim g st) (h0 : g.af % 16 = 0)
    (hex : execList B e (rottBody k r) st = .ok s3) :
    ∃ af', af' / 256 % 256 = g.af / 256 % 256 ∧ af' % 16 = 0 ∧
      Sim (flagsRot (setReg { g with af := af' } r (k.res (getReg g r) g.af).1) (k.res (getReg g r) g.af) false) s3 ∧ Untouched st s3 :=
  rott_body_at B k r 0 2 4 (aluOff' 6) e g st s3 hs h0 hex

/-- carry in, rotate, carry out, zero: the register form of RL / RR at any offsets -/
theorem rt_body_at (B : BusOps β) (k : Rt2) (r : Reg8) (oa ob oc : Nat) (o : Nat → Nat) (z0 z1 z2 z3 e : Nat) (g : Regs) (st s6 : St β)
    (hs : Sim g st) (h0 : g.af % 16 = 0) (hex : execList B e (rottBodyAt k r oa ob oc o ++ zTail r z0 z1 z2 z3) st = .ok s6) :
    Sim (flagsRot (setReg g r (k.res (getReg g r) g.af).1) (k.res (getReg g r) g.af) true) s6 ∧ s6.bus = st.bus ∧ s6.stack = st.stack ∧
    (get8 s6 (.lo 14) = 0 ∨ get8 s6 (.lo 14) = 0x80) := by
  obtain ⟨s3, hb1, hb2⟩ := execList_append B e _ (rottBodyAt k r oa ob oc o) st s6 hex
  obtain ⟨hs3, hu3⟩ := rott_sim B k r oa ob oc o _ g st s3 hs h0 hb1
  exact ztail_flagsRot B r z0 z1 z2 z3 e (getReg_setReg_self g r _ (rotT_lt k _ (getReg_lt g r) g.af)) hu3 hs3 hb2

def Rt2.opA : Rt2 → Op
  | .rl => .RotateLeftA | .rr => .RotateRightA
def opcodeRtA : Rt2 → Nat
  | .rl => 0x17 | .rr => 0x1f

theorem table_rta (k : Rt2) (b1 b2 : Nat) :
    decodeCode (Gen.emitOp (opcodeRtA k)) = some (rottBodyAt k .A 0 2 4 (aluOff' 6) ++ [(37, addIp 1), (41, addCy 1)]) ∧
    bytesOf (Gen.emitOp (opcodeRtA k)) = 45 ∧ Gen.decode (opcodeRtA k) b1 b2 = (k.opA, 1, 4) := by
  cases k <;> exact ⟨by decide +kernel, by decide +kernel, rfl⟩

/-- **RLA, RRA**: all states whose F has a clear low nibble -/
theorem sim_rta (k : Rt2) (b1 b2 : Nat) : SimulatesF (opcodeRtA k) b1 b2 :=
  SimulatesF.intro (table_rta k b1 b2) rfl (by decide) (by decide) rfl fun B g _ _ hs h0 _ _ hex =>
    ⟨_, fun _ => by cases k <;> rfl, rott_sim B k .A 0 2 4 (aluOff' 6) 37 g _ _ hs h0 hex⟩

def Rt2.op : Rt2 → Reg8 → Op
  | .rl, r => .RotateLeft r | .rr, r => .RotateRight r
def Rt2.base : Rt2 → Nat
  | .rl => 0x10 | .rr => 0x18
def opcodeRt (k : Rt2) (r : Reg8) : Nat := k.base + r8code r

theorem table_rt (k : Rt2) (r : Reg8) (b2 : Nat) :
    decodeCode (Gen.emitCb (opcodeRt k r)) = some ((rottBodyAt k r 0 2 4 (aluOff' 6) ++ zTail r 37 39 43 46) ++ [(49, addIp 2), (53, addCy 2)]) ∧
    bytesOf (Gen.emitCb (opcodeRt k r)) = 57 ∧ Gen.decode 0xcb (opcodeRt k r) b2 = (k.op r, 2, 8) := by
  rw [decode_cb]
  revert r
  cases k <;> exact forall_reg8 (by decide +kernel)

/-- **RL r, RR r** (2 x 7 registers): all states whose F has a clear low nibble -/
theorem sim_rt (k : Rt2) (r : Reg8) (b2 : Nat) : SimulatesCbF (opcodeRt k r) b2 :=
  SimulatesCbF.intro (table_rt k r b2) rfl (by decide) (by decide) rfl fun B g _ _ hs h0 hex =>
    have ⟨q, hsc⟩ := rt_body_at B k r 0 2 4 (aluOff' 6) 37 39 43 46 49 g _ _ hs h0 hex
    ⟨_, fun _ => by cases k <;> rfl, q,
      af16_flagsRot _ true (by have := af_setReg_lo g r (k.res (getReg g r) g.af).1; omega), hsc⟩

end GbVerif.X86
