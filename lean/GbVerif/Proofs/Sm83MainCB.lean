import GbVerif.Proofs.Sm83Cls2
/-!
The CB-prefixed page.  The decoder's table is compared once, by evaluation, with its description by the bit fields
of the second byte (`cbOpOf`: group `b1 / 64`, operation or bit `b1 / 8 % 8`, operand `b1 % 8`, 6 being `(HL)`);
`SM83.stepCB` is organised by the same fields, so each of the eight groups (four operations, on a register or on
`(HL)`) is one instance of a schema of `Sm83Rel` / `Sm83Cls2`, for all bits and all registers at once.
-/
namespace GbVerif.C05
open GbVerif.Interp GbVerif.Enum
open GbVerif.SM83 (Cpu mkF flagZ flagN flagH flagC Outcome)
variable {β : Type} {B : BusOps β}

/-- the interpreter's `Register8` for the SM83 operand index `r[z]`, `z ≠ 6` -/
def reg8 : Nat → Reg8
  | 0 => .B | 1 => .C | 2 => .D | 3 => .E | 4 => .H | 5 => .L | _ => .A

theorem idx_reg8 : ∀ z, z < 8 → z ≠ 6 → idx (reg8 z) = z := by decide

def rotOp (y : Nat) (r : Reg8) : Op :=
  match y with
  | 0 => .RotateLeftCarry r | 1 => .RotateRightCarry r | 2 => .RotateLeft r | 3 => .RotateRight r
  | 4 => .ShiftLeft r | 5 => .ShiftRight r | 6 => .Swap r | _ => .ShiftRightLogical r

def rotOpHL : Nat → Op
  | 0 => .RotateLeftCarryIndirect | 1 => .RotateRightCarryIndirect | 2 => .RotateLeftIndirect | 3 => .RotateRightIndirect
  | 4 => .ShiftLeftIndirect | 5 => .ShiftRightIndirect | 6 => .SwapIndirect | _ => .ShiftRightLogicalIndirect

/-- the CB page of the decoder by the bit fields of the second byte -/
def cbOpOf (b1 : Nat) : Op :=
  let y := b1 / 8 % 8
  if b1 % 8 = 6 then
    match b1 / 64 with
    | 0 => rotOpHL y | 1 => .BitTestIndirect (2 ^ y) | 2 => .BitClearIndirect (2 ^ y) | _ => .BitSetIndirect (2 ^ y)
  else
    match b1 / 64 with
    | 0 => rotOp y (reg8 (b1 % 8)) | 1 => .BitTest (reg8 (b1 % 8)) (2 ^ y) | 2 => .BitClear (reg8 (b1 % 8)) (2 ^ y)
    | _ => .BitSet (reg8 (b1 % 8)) (2 ^ y)

/-- machine cycles of a CB-prefixed instruction -/
def cbCycles (b1 : Nat) : Nat := if b1 % 8 = 6 then (if b1 / 64 = 1 then 3 else 4) else 2

theorem decode_cb (b1 b2 : Nat) (h : b1 < 2 ^ 8) : Gen.decode 0xCB b1 b2 = (cbOpOf b1, 2, 4 * cbCycles b1) := by
  have := forall_lt_of_allRange
    (fun b1 => decide (Gen.cbOp b1 = cbOpOf b1 ∧ Gen.cbOpLen b1 = 2 ∧ Gen.cbOpClocks b1 = 4 * cbCycles b1)) 8
    (by decide +kernel) b1 h
  obtain ⟨e1, e2, e3⟩ := of_decide_eq_true this
  show (Gen.cbOp b1, Gen.cbOpLen b1, Gen.cbOpClocks b1) = _
  rw [e1, e2, e3]

theorem setR_next (s : Cpu) (i v n : Nat) : SM83.setR (SM83.next s n) i v = SM83.next (SM83.setR s i v) n := by
  unfold SM83.setR; split <;> rfl

theorem step_cb (M : SM83.Mem β) (s : Cpu) (m : β) (n1 n2 : Nat) : SM83.step M s m 0xCB n1 n2 = SM83.stepCB M s m n1 := rfl

variable {b1 b2 : Nat}

theorem runOp_rotOp (y : Nat) (hy : y < 8) (reg : Reg8) (len : Nat) (r : Regs) (m : β) :
    runOp B (rotOp y reg) r m len = .ok (advance
      (flagsRot (setReg r reg (rotModel y (getReg r reg) r.af).1) (rotModel y (getReg r reg) r.af) true) len, m, STATUS_NORMAL) :=
  match y, hy with
  | 0, _ | 1, _ | 2, _ | 3, _ | 4, _ | 5, _ | 6, _ | 7, _ => rfl

theorem runOp_rotOpHL (y : Nat) (hy : y < 8) (len : Nat) (r : Regs) (m : β) :
    runOp B (rotOpHL y) r m len =
      (rmwHL B r m fun v r => ((rotModel y v r.af).1, flagsRot r (rotModel y v r.af) true)).bind fun x =>
        .ok (advance x.1 len, x.2, STATUS_NORMAL) :=
  match y, hy with
  | 0, _ | 1, _ | 2, _ | 3, _ | 4, _ | 5, _ | 6, _ | 7, _ => rfl

theorem step_cb_rot (c : Cpu) (m : β) (hx : b1 / 64 = 0) (hz : b1 % 8 ≠ 6) :
    SM83.step (memOf B) c m 0xCB b1 b2 =
      .ok (SM83.next { SM83.setR c (b1 % 8) (SM83.rot c.f (b1 / 8 % 8) (SM83.getR c (b1 % 8))).1 with
        f := (SM83.rot c.f (b1 / 8 % 8) (SM83.getR c (b1 % 8))).2 } 2, m, 2, .normal) := by
  simp only [step_cb, SM83.stepCB, SM83.readR, SM83.writeR, hx, hz, if_false, bind, Except.bind, pure, Except.pure, setR_next]
  rfl

theorem step_cb_bit (c : Cpu) (m : β) (hx : b1 / 64 = 1) (hz : b1 % 8 ≠ 6) :
    SM83.step (memOf B) c m 0xCB b1 b2 =
      .ok (SM83.next { c with f := mkF (decide (SM83.getR c (b1 % 8) / 2 ^ (b1 / 8 % 8) % 2 = 0)) false true (flagC c.f) } 2,
        m, 2, .normal) := by
  simp only [step_cb, SM83.stepCB, SM83.readR, hx, hz, if_false, bind, Except.bind, pure, Except.pure]
  rfl

theorem step_cb_res (c : Cpu) (m : β) (hx : b1 / 64 = 2) (hz : b1 % 8 ≠ 6) :
    SM83.step (memOf B) c m 0xCB b1 b2 =
      .ok (SM83.next (SM83.setR c (b1 % 8)
        (SM83.getR c (b1 % 8) - (SM83.getR c (b1 % 8) / 2 ^ (b1 / 8 % 8) % 2) * 2 ^ (b1 / 8 % 8))) 2, m, 2, .normal) := by
  simp only [step_cb, SM83.stepCB, SM83.readR, SM83.writeR, hx, hz, if_false, bind, Except.bind, pure, Except.pure, setR_next]

theorem step_cb_set (c : Cpu) (m : β) (hx : b1 / 64 = 3) (hz : b1 % 8 ≠ 6) :
    SM83.step (memOf B) c m 0xCB b1 b2 =
      .ok (SM83.next (SM83.setR c (b1 % 8)
        (SM83.getR c (b1 % 8) + (1 - SM83.getR c (b1 % 8) / 2 ^ (b1 / 8 % 8) % 2) * 2 ^ (b1 / 8 % 8))) 2, m, 2, .normal) := by
  simp only [step_cb, SM83.stepCB, SM83.readR, SM83.writeR, hx, hz, if_false, bind, Except.bind, pure, Except.pure, setR_next]

theorem step_cb_rot_hl (c : Cpu) (m : β) (hx : b1 / 64 = 0) (hz : b1 % 8 = 6) :
    SM83.step (memOf B) c m 0xCB b1 b2 =
      (B.read m (SM83.hl c)).bind fun v =>
        (SM83.writeR (memOf B) (SM83.next c 2) m 6 (SM83.rot c.f (b1 / 8 % 8) v).1).bind fun x =>
          .ok ({ x.1 with f := (SM83.rot c.f (b1 / 8 % 8) v).2 }, x.2, 4, .normal) := by
  simp only [step_cb, SM83.stepCB, SM83.readR, hx, hz, if_true, bind, pure, Except.pure]
  rfl

theorem step_cb_bit_hl (c : Cpu) (m : β) (hx : b1 / 64 = 1) (hz : b1 % 8 = 6) :
    SM83.step (memOf B) c m 0xCB b1 b2 =
      (B.read m (SM83.hl c)).bind fun v =>
        .ok (SM83.next { c with f := mkF (decide (v / 2 ^ (b1 / 8 % 8) % 2 = 0)) false true (flagC c.f) } 2, m, 3, .normal) := by
  simp only [step_cb, SM83.stepCB, SM83.readR, hx, hz, if_true, bind, pure, Except.pure]
  rfl

theorem step_cb_res_hl (c : Cpu) (m : β) (hx : b1 / 64 = 2) (hz : b1 % 8 = 6) :
    SM83.step (memOf B) c m 0xCB b1 b2 =
      (B.read m (SM83.hl c)).bind fun v =>
        (SM83.writeR (memOf B) (SM83.next c 2) m 6 (v - (v / 2 ^ (b1 / 8 % 8) % 2) * 2 ^ (b1 / 8 % 8))).bind fun x =>
          .ok (x.1, x.2, 4, .normal) := by
  simp only [step_cb, SM83.stepCB, SM83.readR, hx, hz, if_true, bind, pure, Except.pure]
  rfl

theorem step_cb_set_hl (c : Cpu) (m : β) (hx : b1 / 64 = 3) (hz : b1 % 8 = 6) :
    SM83.step (memOf B) c m 0xCB b1 b2 =
      (B.read m (SM83.hl c)).bind fun v =>
        (SM83.writeR (memOf B) (SM83.next c 2) m 6 (v + (1 - v / 2 ^ (b1 / 8 % 8) % 2) * 2 ^ (b1 / 8 % 8))).bind fun x =>
          .ok (x.1, x.2, 4, .normal) := by
  simp only [step_cb, SM83.stepCB, SM83.readR, hx, hz, if_true, bind, pure, Except.pure]
  rfl

/-- every CB-prefixed encoding, all operand bytes -/
theorem refines_cb (hB : ByteBus B) (b1 : Nat) (h1 : b1 < 2 ^ 8) (b2 : Nat) : Refines B 0xCB b1 b2 := by
  have hd := decode_cb b1 b2 h1
  have hy : b1 / 8 % 8 < 8 := Nat.mod_lt _ (by decide)
  have hx : b1 / 64 = 0 ∨ b1 / 64 = 1 ∨ b1 / 64 = 2 ∨ b1 / 64 = 3 := by omega
  simp only [cbOpOf, cbCycles] at hd
  by_cases hz : b1 % 8 = 6
  · simp only [hz, if_true] at hd
    rcases hx with hx | hx | hx | hx <;> simp only [hx] at hd
    · exact refines_of hd (fun c m => step_cb_rot_hl c m hx hz)
        (op_rmw hB (fun c => SM83.next c 2) (fun c v s => { s with f := (SM83.rot c.f (b1 / 8 % 8) v).2 })
          (fun v c => { c with f := (SM83.rot c.f (b1 / 8 % 8) v).2 }) (runOp_rotOpHL _ hy 2) (fun _ => rfl) (fun _ _ => rfl)
          fun v c k hv hc => by
            rw [rotModel_conc hc k _ v hy hv, flagsRot_conc hc, rot_eq]; exact ⟨rfl, cwf_mkF hc ..⟩)
    · exact refines_of hd (fun c m => step_cb_bit_hl c m hx hz)
        (op_read hB (fun _ _ => rfl) (fun _ k hc => getHL_conc hc k)
          fun v c k _ hc => by rw [bitFlags_conc hc]; exact ⟨rfl, cwf_mkF hc ..⟩)
    · exact refines_of hd (fun c m => step_cb_res_hl c m hx hz)
        (op_rmw hB (fun c => SM83.next c 2) (fun _ _ s => s) (fun _ c => c) (fun _ _ => rfl) (fun _ => rfl) (fun _ _ => rfl)
          fun v c k hv hc => by rw [bit_clear v _ hv hy]; exact ⟨rfl, hc⟩)
    · exact refines_of hd (fun c m => step_cb_set_hl c m hx hz)
        (op_rmw hB (fun c => SM83.next c 2) (fun _ _ s => s) (fun _ c => c) (fun _ _ => rfl) (fun _ => rfl) (fun _ _ => rfl)
          fun v c k hv hc => by rw [bit_set v _ hv hy]; exact ⟨rfl, hc⟩)
  · have hi := idx_reg8 (b1 % 8) (Nat.mod_lt _ (by decide)) hz
    simp only [hz, if_false] at hd
    rcases hx with hx | hx | hx | hx <;> simp only [hx] at hd
    · exact refines_of hd (fun c m => step_cb_rot c m hx hz)
        (op_pure (runOp_rotOp _ hy _ 2) fun c k hc => by
          have hv := getR_lt hc (b1 % 8)
          have hl := rotRes_lt (if flagC c.f then 1 else 0) (b1 / 8 % 8) _ (by split <;> omega) hv
          rw [getReg_conc hc, hi, rotModel_conc hc k _ _ hy hv, setReg_conc hc k _ _ hl, hi,
            flagsRot_conc (cwf_setR hc _ _ hl), rot_eq]
          exact ⟨rfl, cwf_mkF (cwf_setR hc _ _ hl) ..⟩)
    · exact refines_of hd (fun c m => step_cb_bit c m hx hz)
        (op_pure (fun _ _ => rfl) fun c k hc => by rw [getReg_conc hc, bitFlags_conc hc, hi]; exact ⟨rfl, cwf_mkF hc ..⟩)
    · exact refines_of hd (fun c m => step_cb_res c m hx hz)
        (op_pure (fun _ _ => rfl) fun c k hc => by
          have hv := getR_lt hc (b1 % 8)
          have hl := bit_clear_lt _ ((2 ^ (b1 / 8 % 8) ^^^ 0xff) % 256) hv
          rw [getReg_conc hc, hi, setReg_conc hc k _ _ hl, hi, bit_clear _ _ hv hy]
          rw [bit_clear _ _ hv hy] at hl
          exact ⟨rfl, cwf_setR hc _ _ hl⟩)
    · exact refines_of hd (fun c m => step_cb_set c m hx hz)
        (op_pure (fun _ _ => rfl) fun c k hc => by
          have hv := getR_lt hc (b1 % 8)
          have hl := bit_set_lt _ _ hv hy
          rw [getReg_conc hc, hi, setReg_conc hc k _ _ hl, hi, bit_set _ _ hv hy]
          rw [bit_set _ _ hv hy] at hl
          exact ⟨rfl, cwf_setR hc _ _ hl⟩)

end GbVerif.C05
