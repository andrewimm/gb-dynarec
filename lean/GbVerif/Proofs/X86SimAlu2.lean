import GbVerif.Proofs.X86SimAlu
/-
C01, the data side: SUB / CP / AND / XOR / OR on A with a register operand (fix-up instructions on F after the conversion).
The bodies `sub_body`, `and_body`, `xo_body` take the operand instruction as a parameter (`IsAOp`): the immediate and the
(HL) forms use them again.
-/
namespace GbVerif.X86
open GbVerif.JitCycles GbVerif.Interp
variable {β : Type}

theorem halfSub_eq (a v cin : Nat) (hc : cin ≤ 1) :
    (u8 (u8 ((a &&& 0x0f) + 256 - (v &&& 0x0f)) + 256 - cin) &&& 0x10 != 0) = decide (a % 16 < v % 16 + cin) := by
  unfold u8
  rw [and_0f, and_0f, bit4_byte _ (Nat.mod_lt _ (by decide))]
  apply decide_eq_decide.mpr
  omega

theorem halfSub0_eq (a v : Nat) : (u8 ((a &&& 0x0f) + 256 - (v &&& 0x0f)) &&& 0x10 != 0) = decide (a % 16 < v % 16) := by
  unfold u8
  rw [and_0f, and_0f, bit4_byte _ (Nat.mod_lt _ (by decide))]
  apply decide_eq_decide.mpr
  omega

theorem fSub_eq (f : Nat) (z h c : Bool) :
    bitop .or ((f &&& 0x0f) ||| (((if z then 0x80 else 0) + (if h then 0x20 else 0) + (if c then 0x10 else 0)) &&& 0xf0)) 64 =
    (((((f &&& 0x0f) ||| (if c then 0x10 else 0)) ||| (if h then 0x20 else 0)) ||| 0x40) ||| (if z then 0x80 else 0)) := by
  cases c <;> cases h <;> cases z <;> simp [bitop, Nat.or_assoc]

theorem conv_carrySub (op : AluOp) (hop : op = .sub ∨ op = .cmp) (a v : Nat) (hv : v < 256) (fl : Flags) :
    conv (aluOp op 8 a v fl).2 = (if (carrySub a v).1 == 0 then 0x80 else 0) + (if (carrySub a v).2.2 then 0x20 else 0) +
      (if (carrySub a v).2.1 then 0x10 else 0) := by
  have h1 : (a + 256 + 256 - v - 0) % 256 = (carrySub a v).1 := by show _ = (a + 256 - v) % 256; omega
  have h2 : (carrySub a v).2.2 = decide (a % 16 < v % 16 + 0) := halfSub0_eq a v
  rw [h2, ← h1]
  rcases hop with e | e <;> subst e <;> rfl

theorem sub_body (B : BusOps β) (op : AluOp) (hop : op = .sub ∨ op = .cmp) (ins : Instr) (rd : St β → Nat) (hins : IsAOp B op ins rd) (v : Nat) (o : Nat → Nat) (e : Nat) (g : Regs)
    (st s2 : St β) (hs : Sim g st) (hv : rd st = v) (hvlt : v < 256)
    (hex : execList B e (((o 0, ins) :: pipeAt o 15 240) ++ [(o 10, .alu8i .or (.lo 0) 64)]) st = .ok s2) :
    Sim (if op == .cmp then opCp g v else opSub g v) s2 ∧ Untouched st s2 := by
  rw [List.cons_append] at hex
  obtain ⟨s1, h1, hex2⟩ := execList_cons B _ _ _ _ _ _ hex
  obtain ⟨hs1, hu1, hfl⟩ := step_aop_sim B hins hs hv (by rcases hop with e | e <;> subst e <;> exact Nat.mod_lt _ (by decide)) h1
  have key : ∀ g1, Sim g1 s1 → Sim (flagsSub g1 (carrySub (getReg g .A) v)) s2 ∧ Untouched s1 s2 := fun g1 hs1 =>
    pipe_al_sim B .or (Or.inr (Or.inl rfl)) 15 240 64 (by decide) (by decide) (by decide) o e hs1 (sameButAf_flagsSub _ _)
      (flagsSub_af _ _) (by rw [hfl, conv_carrySub op hop _ _ hvlt]; exact fSub_eq _ _ _ _) hex2
  rcases hop with e | e <;> subst e
  · have hx : (aluOp .sub 8 (getReg g .A) v st.fl).1 = (carrySub (getReg g .A) v).1 := by
      show (getReg g .A + 2 ^ 8 + 2 ^ 8 - v - 0) % 2 ^ 8 = (getReg g .A + 256 - v) % 256; omega
    rw [hx] at hs1
    have ⟨q1, q2⟩ := key _ hs1
    exact ⟨q1, hu1.trans q2⟩
  · have ⟨q1, q2⟩ := key _ hs1
    exact ⟨q1, hu1.trans q2⟩

/-- the masks of AND A,r and AND A,(HL): keep 0x7f, take 0x80, `and al, 0xaf ; or al, 0x20` -/
theorem fAnd_eq (f : Nat) (hf : f < 256) (z : Bool) :
    bitop .or (bitop .and ((f &&& 127) ||| ((if z then 0x80 else 0) &&& 128)) 175) 32 = (((f &&& 0x0f) ||| 0x20) ||| (if z then 0x80 else 0)) :=
  of_decide_eq_true (Enum.forall_lt_of_allRange (fun f => decide (∀ z : Bool,
    bitop .or (bitop .and ((f &&& 127) ||| ((if z then 0x80 else 0) &&& 128)) 175) 32 = (((f &&& 0x0f) ||| 0x20) ||| (if z then 0x80 else 0))))
    8 (by decide +kernel) f hf) z

/-- the masks of AND A,n: keep 0x3f, take 0xc0, `and al, 0xef ; or al, 0x20` -/
theorem fAnd_eq' (f : Nat) (hf : f < 256) (z : Bool) :
    bitop .or (bitop .and ((f &&& 63) ||| ((if z then 0x80 else 0) &&& 192)) 239) 32 = (((f &&& 0x0f) ||| 0x20) ||| (if z then 0x80 else 0)) :=
  of_decide_eq_true (Enum.forall_lt_of_allRange (fun f => decide (∀ z : Bool,
    bitop .or (bitop .and ((f &&& 63) ||| ((if z then 0x80 else 0) &&& 192)) 239) 32 = (((f &&& 0x0f) ||| 0x20) ||| (if z then 0x80 else 0))))
    8 (by decide +kernel) f hf) z

theorem fXor_eq (f : Nat) (hf : f < 256) (z : Bool) :
    bitop .and ((f &&& 127) ||| ((if z then 0x80 else 0) &&& 128)) 143 = ((f &&& 0x0f) ||| (if z then 0x80 else 0)) :=
  of_decide_eq_true (Enum.forall_lt_of_allRange (fun f => decide (∀ z : Bool,
    bitop .and ((f &&& 127) ||| ((if z then 0x80 else 0) &&& 128)) 143 = ((f &&& 0x0f) ||| (if z then 0x80 else 0))))
    8 (by decide +kernel) f hf) z

theorem logic_val (op : AluOp) (hop : op = .and ∨ op = .or ∨ op = .xor) (a v : Nat) (fl : Flags) :
    (aluOp op 8 a v fl).1 = bitop op a v ∧ conv (aluOp op 8 a v fl).2 = (if bitop op a v == 0 then 0x80 else 0) := by
  rcases hop with e | e | e <;> subst e <;> exact ⟨rfl, by simp [conv, aluOp, bitop]⟩

theorem sameButAf_logic (g : Regs) (x : Nat) (h20 : Bool) :
    SameButAf g (testZero (if h20 then orF (applyMask (setReg g .A x) 0xf0) 0x20 else applyMask (setReg g .A x) 0xf0) x) := by
  cases h20
  · exact ((sameButAf_setA g _).trans (sameButAf_applyMask _ _)).trans (sameButAf_testZero _ _)
  · exact (((sameButAf_setA g _).trans (sameButAf_applyMask _ _)).trans (sameButAf_orF _ _)).trans (sameButAf_testZero _ _)

theorem swapFlags_pack (g1 : Regs) (x : Nat) :
    (testZero (applyMask g1 0xf0) x).af = getReg g1 .A * 256 + ((g1.af % 256 &&& 0x0f) ||| (if x == 0 then 0x80 else 0)) :=
  testZero_pack _ _ _ x (Nat.lt_of_le_of_lt Nat.and_le_right (by decide)) (applyMask_f0 g1)

theorem andFlags_pack (g1 : Regs) (x : Nat) :
    (testZero (orF (applyMask g1 0xf0) 0x20) x).af =
      getReg g1 .A * 256 + (((g1.af % 256 &&& 0x0f) ||| 0x20) ||| (if x == 0 then 0x80 else 0)) :=
  have b0 : g1.af % 256 &&& 0x0f < 256 := Nat.lt_of_le_of_lt Nat.and_le_right (by decide)
  testZero_pack _ _ _ x (Nat.or_lt_two_pow (n := 8) b0 (by decide)) (orF_pack _ _ _ 0x20 b0 (by decide) (applyMask_f0 g1))

/-- `hF` is the byte identity for the template's masks (`fAnd_eq`, `fAnd_eq'`) -/
theorem and_body (B : BusOps β) (ins : Instr) (rd : St β → Nat) (hins : IsAOp B .and ins rd) (keep take m : Nat) (hk : keep < 256) (ht : take < 256) (hm : m < 256)
    (hF : ∀ f, f < 256 → ∀ z : Bool, bitop .or (bitop .and ((f &&& keep) ||| ((if z then 0x80 else 0) &&& take)) m) 32 = (((f &&& 0x0f) ||| 0x20) ||| (if z then 0x80 else 0))) (v : Nat) (o : Nat → Nat) (e : Nat) (g : Regs)
    (st s3 : St β) (hs : Sim g st) (hv : rd st = v)
    (hex : execList B e (((o 0, ins) :: pipeAt o keep take) ++
      [(o 10, .alu8i .and (.lo 0) m), (o 11, .alu8i .or (.lo 0) 32)]) st = .ok s3) :
    Sim (opAnd g v) s3 ∧ Untouched st s3 := by
  rw [List.cons_append] at hex
  obtain ⟨s1, h1, hex2⟩ := execList_cons B _ _ _ _ _ _ hex
  obtain ⟨hs1, hu1, hfl⟩ := step_aop_sim B hins hs hv (Nat.lt_of_le_of_lt Nat.and_le_left (getReg_lt g .A)) h1
  have ⟨q1, q2⟩ := pipe_tail_sim B hk ht o (alTail_cons B (Or.inl rfl) hm (alTail_cons B (Or.inr (Or.inl rfl)) (by decide) (alTail_nil B e)))
    hs1 ((sameButAf_applyMask _ _).trans ((sameButAf_orF _ _).trans (sameButAf_testZero _ _)))
    (andFlags_pack _ (getReg g .A &&& v))
    (by rw [hfl, (logic_val .and (Or.inl rfl) _ _ _).2]; exact hF _ (Nat.mod_lt _ (by decide)) _) hex2
  exact ⟨q1, hu1.trans q2⟩

theorem xo_body (B : BusOps β) (op : AluOp) (hop : op = .xor ∨ op = .or) (ins : Instr) (rd : St β → Nat) (hins : IsAOp B op ins rd) (v : Nat) (hvlt : v < 256) (o : Nat → Nat) (e : Nat) (g : Regs)
    (st s2 : St β) (hs : Sim g st) (hv : rd st = v)
    (hex : execList B e (((o 0, ins) :: pipeAt o 127 128) ++ [(o 10, .alu8i .and (.lo 0) 143)]) st = .ok s2) :
    Sim (if op == .xor then opXor g v else opOr g v) s2 ∧ Untouched st s2 := by
  have hop3 : op = .and ∨ op = .or ∨ op = .xor := by rcases hop with e | e <;> subst e <;> simp
  rw [List.cons_append] at hex
  obtain ⟨s1, h1, hex2⟩ := execList_cons B _ _ _ _ _ _ hex
  obtain ⟨hval, hconv⟩ := logic_val op hop3 (getReg g .A) v st.fl
  obtain ⟨hs1, hu1, hfl⟩ := step_aop_sim B hins hs hv (hval ▸ bitop_lt op _ _ (getReg_lt g .A) hvlt) h1
  have ⟨q1, q2⟩ := pipe_al_sim B .and (Or.inl rfl) 127 128 143 (by decide) (by decide) (by decide) o e hs1
    ((sameButAf_applyMask _ _).trans (sameButAf_testZero _ _)) (swapFlags_pack _ (aluOp op 8 (getReg g .A) v st.fl).1)
    (by rw [hfl, hconv, hval]; exact fXor_eq _ (Nat.mod_lt _ (by decide)) _) hex2
  rcases hop with e | e <;> subst e <;> exact ⟨q1, hu1.trans q2⟩

def opcodeSub (r : Reg8) : Nat := 0x90 + r8code r
def opcodeAnd (r : Reg8) : Nat := 0xa0 + r8code r
def opcodeXor (r : Reg8) : Nat := 0xa8 + r8code r
def opcodeOr (r : Reg8) : Nat := 0xb0 + r8code r
def opcodeCp (r : Reg8) : Nat := 0xb8 + r8code r

/-- offsets of an ALU template with fix-up instructions after the conversion (each 2 bytes) -/
def aluOff' (n0 : Nat) (k : Nat) : Nat :=
  [0, n0, n0 + 1, n0 + 2, n0 + 5, n0 + 7, n0 + 10, n0 + 16, n0 + 21, n0 + 27, n0 + 29, n0 + 31].getD k 0

theorem table_sub (r : Reg8) (b1 b2 : Nat) :
    (decodeCode (Gen.emitOp (opcodeSub r)) =
      some ((((0, Instr.alu8 AluOp.sub (R8.hi 0) (hostR8 r)) :: pipeAt (aluOff' 2) 15 240) ++ [(31, Instr.alu8i AluOp.or (R8.lo 0) 64)]) ++ [(33, addIp 1), (37, addCy 1)]) ∧
    bytesOf (Gen.emitOp (opcodeSub r)) = 41 ∧ Gen.decode (opcodeSub r) b1 b2 = (.Sub8 .A r, 1, 4)) ∧
    (decodeCode (Gen.emitOp (opcodeCp r)) =
      some ((((0, Instr.alu8 AluOp.cmp (R8.hi 0) (hostR8 r)) :: pipeAt (aluOff' 2) 15 240) ++ [(31, Instr.alu8i AluOp.or (R8.lo 0) 64)]) ++ [(33, addIp 1), (37, addCy 1)]) ∧
    bytesOf (Gen.emitOp (opcodeCp r)) = 41 ∧ Gen.decode (opcodeCp r) b1 b2 = (.Compare8 r, 1, 4)) := by
  refine ⟨⟨?_, ?_, by cases r <;> rfl⟩, ⟨?_, ?_, by cases r <;> rfl⟩⟩ <;> revert r <;> exact forall_reg8 (by decide +kernel)

/-- **SUB A,r** (7 registers): all states -/
theorem sim_sub (r : Reg8) (b1 b2 : Nat) : Simulates (opcodeSub r) b1 b2 :=
  Simulates.intro (table_sub r b1 b2).1 rfl (by decide) (by decide) rfl fun B g _ _ hs _ _ hex =>
    ⟨_, fun _ => rfl, sub_body B .sub (Or.inl rfl) _ _ (isAOp_reg B .sub (hostR8 r)) (getReg g r) (aluOff' 2) 33 g _ _ hs (get8_sim hs r) (getReg_lt g r) hex⟩

/-- **CP r** (7 registers): all states -/
theorem sim_cp (r : Reg8) (b1 b2 : Nat) : Simulates (opcodeCp r) b1 b2 :=
  Simulates.intro (table_sub r b1 b2).2 rfl (by decide) (by decide) rfl fun B g _ _ hs _ _ hex =>
    ⟨_, fun _ => rfl, sub_body B .cmp (Or.inr rfl) _ _ (isAOp_reg B .cmp (hostR8 r)) (getReg g r) (aluOff' 2) 33 g _ _ hs (get8_sim hs r) (getReg_lt g r) hex⟩

theorem table_logic (r : Reg8) (b1 b2 : Nat) :
    (decodeCode (Gen.emitOp (opcodeAnd r)) =
      some ((((0, Instr.alu8 AluOp.and (R8.hi 0) (hostR8 r)) :: pipeAt (aluOff' 2) 127 128) ++ [(31, Instr.alu8i AluOp.and (R8.lo 0) 175), (33, Instr.alu8i AluOp.or (R8.lo 0) 32)]) ++ [(35, addIp 1), (39, addCy 1)]) ∧
    bytesOf (Gen.emitOp (opcodeAnd r)) = 43 ∧ Gen.decode (opcodeAnd r) b1 b2 = (.And8 .A r, 1, 4)) ∧
    (decodeCode (Gen.emitOp (opcodeXor r)) =
      some ((((0, Instr.alu8 AluOp.xor (R8.hi 0) (hostR8 r)) :: pipeAt (aluOff' 2) 127 128) ++ [(31, Instr.alu8i AluOp.and (R8.lo 0) 143)]) ++ [(33, addIp 1), (37, addCy 1)]) ∧
    bytesOf (Gen.emitOp (opcodeXor r)) = 41 ∧ Gen.decode (opcodeXor r) b1 b2 = (.Xor8 .A r, 1, 4)) ∧
    (decodeCode (Gen.emitOp (opcodeOr r)) =
      some ((((0, Instr.alu8 AluOp.or (R8.hi 0) (hostR8 r)) :: pipeAt (aluOff' 2) 127 128) ++ [(31, Instr.alu8i AluOp.and (R8.lo 0) 143)]) ++ [(33, addIp 1), (37, addCy 1)]) ∧
    bytesOf (Gen.emitOp (opcodeOr r)) = 41 ∧ Gen.decode (opcodeOr r) b1 b2 = (.Or8 .A r, 1, 4)) := by
  refine ⟨⟨?_, ?_, by cases r <;> rfl⟩, ⟨?_, ?_, by cases r <;> rfl⟩, ⟨?_, ?_, by cases r <;> rfl⟩⟩ <;> revert r <;> exact forall_reg8 (by decide +kernel)

/-- **AND A,r** (7 registers): all states -/
theorem sim_and (r : Reg8) (b1 b2 : Nat) : Simulates (opcodeAnd r) b1 b2 :=
  Simulates.intro (table_logic r b1 b2).1 rfl (by decide) (by decide) rfl fun B g _ _ hs _ _ hex =>
    ⟨_, fun _ => rfl, and_body B _ _ (isAOp_reg B .and (hostR8 r)) 127 128 175 (by decide) (by decide) (by decide) fAnd_eq (getReg g r) (aluOff' 2) 35 g _ _ hs (get8_sim hs r) hex⟩

/-- **XOR A,r** (7 registers): all states -/
theorem sim_xor (r : Reg8) (b1 b2 : Nat) : Simulates (opcodeXor r) b1 b2 :=
  Simulates.intro (table_logic r b1 b2).2.1 rfl (by decide) (by decide) rfl fun B g _ _ hs _ _ hex =>
    ⟨_, fun _ => rfl, xo_body B .xor (Or.inl rfl) _ _ (isAOp_reg B .xor (hostR8 r)) (getReg g r) (getReg_lt g r) (aluOff' 2) 33 g _ _ hs (get8_sim hs r) hex⟩

/-- **OR A,r** (7 registers): all states -/
theorem sim_or (r : Reg8) (b1 b2 : Nat) : Simulates (opcodeOr r) b1 b2 :=
  Simulates.intro (table_logic r b1 b2).2.2 rfl (by decide) (by decide) rfl fun B g _ _ hs _ _ hex =>
    ⟨_, fun _ => rfl, xo_body B .or (Or.inr rfl) _ _ (isAOp_reg B .or (hostR8 r)) (getReg g r) (getReg_lt g r) (aluOff' 2) 33 g _ _ hs (get8_sim hs r) hex⟩

end GbVerif.X86
