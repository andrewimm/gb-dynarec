import GbVerif.Proofs.Sm83Abs
/-!
Rotates / shifts / SWAP, INC / DEC flag computation and the single-bit operations: the interpreter's primitives
equal the SM83 `rot[y]` table and the arithmetic bit-operation definitions for every byte and carry-in.
-/
namespace GbVerif.C05
open GbVerif.Interp GbVerif.Sm83Bits GbVerif.Enum
open GbVerif.SM83 (Cpu mkF flagZ flagN flagH flagC)

/-- the interpreter's eight rotate/shift primitives, indexed like the SM83 `rot[y]` table -/
def rotModel (y v af : Nat) : Nat × Bool :=
  match y with
  | 0 => rlCircular v | 1 => rrCircular v | 2 => rlThrough v af | 3 => rrThrough v af
  | 4 => sla v | 5 => sra v | 6 => (swapN v, false) | _ => srl v

/-- (result, carry) of the SM83 `rot[y]` with carry-in `e` -/
def rotRes (e y v : Nat) : Nat × Bool :=
  match y with
  | 0 => ((v * 2) % 256 + v / 128, v / 128 = 1)
  | 1 => (v / 2 + (v % 2) * 128, v % 2 = 1)
  | 2 => ((v * 2) % 256 + e, v / 128 = 1)
  | 3 => (v / 2 + e * 128, v % 2 = 1)
  | 4 => ((v * 2) % 256, v / 128 = 1)
  | 5 => (v / 2 + (v / 128) * 128, v % 2 = 1)
  | 6 => ((v % 16) * 16 + v / 16, false)
  | _ => (v / 2, v % 2 = 1)

theorem rot_eq (f y v : Nat) :
    SM83.rot f y v = ((rotRes (if flagC f then 1 else 0) y v).1,
      mkF ((rotRes (if flagC f then 1 else 0) y v).1 = 0) false false (rotRes (if flagC f then 1 else 0) y v).2) := rfl

/-- all eight primitives on every byte and both carry-ins (4096 cases) -/
theorem rotModel_enum : ∀ n, n < 2 ^ 12 →
    rotModel (n / 512) (n % 256) ((n / 256 % 2) * 16) = rotRes (n / 256 % 2) (n / 512) (n % 256) := by
  intro n hn
  have := forall_lt_of_allRange (fun n =>
    decide (rotModel (n / 512) (n % 256) ((n / 256 % 2) * 16) = rotRes (n / 256 % 2) (n / 512) (n % 256))) 12
    (by decide +kernel) n hn
  exact of_decide_eq_true this

/-- the rotate primitives only look at bit 4 of AF -/
theorem rotModel_af (y v af : Nat) : rotModel y v af = rotModel y v ((af / 16 % 2) * 16) := by
  have h : af &&& 0x10 = ((af / 16 % 2) * 16) &&& 0x10 := by
    rw [and_10_val, and_10_val]; omega
  unfold rotModel
  split <;> simp only [rlThrough, rrThrough, h]

theorem rotModel_spec (y v af : Nat) (hy : y < 8) (hv : v < 256) :
    rotModel y v af = rotRes (af / 16 % 2) y v := by
  have h := rotModel_enum (y * 512 + (af / 16 % 2) * 256 + v) (by omega)
  have e1 : (y * 512 + (af / 16 % 2) * 256 + v) / 512 = y := by omega
  have e2 : (y * 512 + (af / 16 % 2) * 256 + v) % 256 = v := by omega
  have e3 : (y * 512 + (af / 16 % 2) * 256 + v) / 256 % 2 = af / 16 % 2 := by omega
  rw [e1, e2, e3] at h
  rw [rotModel_af]; exact h

theorem rotRes_lt (e y v : Nat) (he : e < 2) (hv : v < 256) : (rotRes e y v).1 < 256 := by
  unfold rotRes; split <;> simp only <;> omega

/-- on a concretised state the carry-in bit is the SM83 C flag -/
theorem rotModel_conc {c : Cpu} (hc : CWF c) (k y v : Nat) (hy : y < 8) (hv : v < 256) :
    rotModel y v (conc c k).af = rotRes (if flagC c.f then 1 else 0) y v := by
  rw [rotModel_spec y v _ hy hv]
  have hf := hc.hf
  have e : (conc c k).af / 16 % 2 = c.f / 16 % 2 := by simp only [conc]; omega
  rw [e]
  have h2 : c.f / 16 % 2 = 0 ∨ c.f / 16 % 2 = 1 := by omega
  rcases h2 with h2 | h2 <;> simp [flagC, h2]

theorem flagsRot_conc {c : Cpu} (hc : CWF c) (k : Nat) (res : Nat × Bool) (wz : Bool) :
    flagsRot (conc c k) res wz = conc { c with f := mkF (wz && decide (res.1 = 0)) false false res.2 } k := by
  simp only [flagsRot]
  rw [mask_f0 hc, testCarry_mkF hc]
  cases wz
  · simp
  · simp only [if_true, Bool.true_and]; rw [testZero_mkF hc]; simp only [Bool.false_or]

theorem carryAdd1 (v : Nat) : carryAdd v 1 = ((v + 1) % 256, decide (v + 1 ≥ 256), decide (v % 16 = 15)) := by
  simp only [carryAdd, u8, and_0f, and_10_ne, Prod.mk.injEq, decide_eq_decide, true_and]; omega

theorem carrySub1 (v : Nat) (hv : v < 256) : carrySub v 1 = ((v + 255) % 256, decide (v < 1), decide (v % 16 = 0)) := by
  simp only [carrySub, u8, and_0f, and_10_ne, Prod.mk.injEq, decide_eq_decide]
  refine ⟨?_, ?_, ?_⟩
  · omega
  · trivial
  · omega

/-- the flag updates of INC (`n = false`) and DEC (`n = true`): C kept, H and Z tested -/
theorem incFlags_conc {c : Cpu} (hc : CWF c) (k : Nat) (h : Bool) (z : Nat) :
    testZero (testHalf (applyMask (conc c k) 0xe0) h) z = conc { c with f := mkF (decide (z = 0)) false h (flagC c.f) } k := by
  rw [mask_e0 hc, testHalf_mkF hc, testZero_mkF hc]
  simp only [Bool.false_or]

theorem decFlags_conc {c : Cpu} (hc : CWF c) (k : Nat) (h : Bool) (z : Nat) :
    testZero (setNeg (testHalf (applyMask (conc c k) 0xe0) h)) z =
      conc { c with f := mkF (decide (z = 0)) true h (flagC c.f) } k := by
  rw [mask_e0 hc, testHalf_mkF hc, setNeg_mkF hc, testZero_mkF hc]
  simp only [Bool.false_or]

private theorem m256 (x : Nat) : x % 256 < 256 := Nat.mod_lt _ (by decide)

/-! ### single-bit operations (mask = 2^y) -/

theorem bit_test (v y : Nat) : decide (v &&& 2 ^ y = 0) = decide (v / 2 ^ y % 2 = 0) := by
  rw [and_pow_val, decide_eq_decide]
  have hp : 0 < 2 ^ y := Nat.two_pow_pos y
  constructor
  · intro h
    rcases Nat.mul_eq_zero.mp h with h | h
    · exact h
    · omega
  · intro h; rw [h]; exact Nat.zero_mul _

theorem bit_ops_enum : ∀ n, n < 2 ^ 11 →
    ((n % 256) ||| 2 ^ (n / 256) = (n % 256) + (1 - (n % 256) / 2 ^ (n / 256) % 2) * 2 ^ (n / 256)) ∧
    ((n % 256) &&& ((2 ^ (n / 256) ^^^ 0xff) % 256) = (n % 256) - ((n % 256) / 2 ^ (n / 256) % 2) * 2 ^ (n / 256)) := by
  intro n hn
  have := forall_lt_of_allRange (fun n => decide (
    ((n % 256) ||| 2 ^ (n / 256) = (n % 256) + (1 - (n % 256) / 2 ^ (n / 256) % 2) * 2 ^ (n / 256)) ∧
    ((n % 256) &&& ((2 ^ (n / 256) ^^^ 0xff) % 256) = (n % 256) - ((n % 256) / 2 ^ (n / 256) % 2) * 2 ^ (n / 256)))) 11
    (by decide +kernel) n hn
  exact of_decide_eq_true this

theorem bit_set (v y : Nat) (hv : v < 256) (hy : y < 8) : v ||| 2 ^ y = v + (1 - v / 2 ^ y % 2) * 2 ^ y := by
  have h := (bit_ops_enum (y * 256 + v) (by omega)).1
  have e1 : (y * 256 + v) % 256 = v := by omega
  have e2 : (y * 256 + v) / 256 = y := by omega
  rw [e1, e2] at h; exact h

theorem bit_clear (v y : Nat) (hv : v < 256) (hy : y < 8) : v &&& ((2 ^ y ^^^ 0xff) % 256) = v - (v / 2 ^ y % 2) * 2 ^ y := by
  have h := (bit_ops_enum (y * 256 + v) (by omega)).2
  have e1 : (y * 256 + v) % 256 = v := by omega
  have e2 : (y * 256 + v) / 256 = y := by omega
  rw [e1, e2] at h; exact h

theorem bit_set_lt (v y : Nat) (hv : v < 256) (hy : y < 8) : v ||| 2 ^ y < 256 := by
  have : 2 ^ y < 2 ^ 8 := Nat.pow_lt_pow_right (by decide) hy
  exact @Nat.or_lt_two_pow _ _ 8 hv this

theorem bit_clear_lt (v m : Nat) (hv : v < 256) : v &&& m < 256 := Nat.lt_of_le_of_lt Nat.and_le_left hv

theorem bitFlags_conc {c : Cpu} (hc : CWF c) (k v y : Nat) :
    testZero (orF (applyMask (conc c k) 0xe0) 0x20) (v &&& 2 ^ y) =
      conc { c with f := mkF (decide (v / 2 ^ y % 2 = 0)) false true (flagC c.f) } k := by
  rw [mask_e0 hc, orF20_mkF hc, testZero_mkF hc, bit_test]
  simp only [Bool.false_or]

end GbVerif.C05
