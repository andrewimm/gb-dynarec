import GbVerif.Proofs.CoreIrq
import GbVerif.Proofs.CoreCycles
/-!
The control skeleton of `Core::update` / `run_interp` / `run_code_block` taken apart, for any device function `dev`:
  execute (`Cpu.runNextOp` / `Cpu.runCodeBlock`)  →  apply the status to IME / run state (`afterOp`, `afterBlock`)
  →  catch the devices up (`dev`)  →  sample IF ∧ IE and dispatch (`handleInterrupt` on `sampled`).
Used by C08 (EI delay, DI/RETI, HALT/STOP) and C09 (time conservation, progress).
-/
namespace GbVerif.CoreProofs
open GbVerif.Core GbVerif.Interp

/-- IME after an instruction of `run_interp` completed: a pending EI becomes effective first, then the status acts -/
def imeAfter (ime : Ime) (status : Nat) : Ime :=
  let ime := if ime == .EnableNext then .Enabled else ime
  if status == STATUS_STOP then ime
  else if status == STATUS_HALT then ime
  else if status == STATUS_INTERRUPT_DISABLE then .Disabled
  else if status == STATUS_INTERRUPT_ENABLE then (if ime == .Disabled then .EnableNext else ime)
  else if status == STATUS_INTERRUPT_ENABLE_IMMEDIATE then .Enabled
  else ime

def runAfter (run : RunState) (status : Nat) : RunState :=
  if status == STATUS_STOP then .Stop else if status == STATUS_HALT then .Halt else run

/-- the core state `run_interp` hands to the catch-up, given what `run_next_op` returned -/
def afterOp (c : State) (r : Regs) (b : Bus.State) (status : Nat) : State :=
  { c with regs := r, bus := b, ime := imeAfter c.ime status, run := runAfter c.run status,
           charged := c.charged + (r.cycles - c.regs.cycles) }

/-- IME after a block of `run_code_block`: EI and RETI both enable at once (no delay under block stepping) -/
def imeAfterBlock (ime : Ime) (status : Nat) : Ime :=
  if status == STATUS_STOP then ime
  else if status == STATUS_HALT then ime
  else if status == STATUS_INTERRUPT_DISABLE then .Disabled
  else if status == STATUS_INTERRUPT_ENABLE || status == STATUS_INTERRUPT_ENABLE_IMMEDIATE then .Enabled
  else ime

def afterBlock (c : State) (r : Regs) (b : Bus.State) (status : Nat) : State :=
  { c with regs := r, bus := b, ime := imeAfterBlock c.ime status, run := runAfter c.run status,
           charged := c.charged + (r.cycles - c.regs.cycles) }

/-- the state whose IF ∧ IE `handle_interrupt` samples: cycle counter consumed, devices caught up to `bus` -/
def sampled (c : State) (bus : Bus.State) (record : Bool) : State :=
  { c with regs := { c.regs with cycles := 0 }, lastBlockCycles := if record then c.regs.cycles else c.lastBlockCycles,
           bus := bus, delivered := c.delivered + c.regs.cycles * 4 }

/-- the state `handle_interrupt` samples in a suspended (HALT / STOP) step -/
def sampledHalted (c : State) (bus : Bus.State) : State :=
  { c with bus := bus, delivered := c.delivered + 4, charged := c.charged + 1 }

theorem catchUp_eq (dev : Dev) (c : State) (record : Bool) :
    catchUp dev c record = dev c.bus (c.regs.cycles * 4) >>= fun bus => handleInterrupt (sampled c bus record) := rfl

/-- the status word is read only through comparisons with the five non-normal codes -/
theorem status_cases {motive : Nat → Prop} (stop : motive STATUS_STOP) (halt : motive STATUS_HALT)
    (di : motive STATUS_INTERRUPT_DISABLE) (ei : motive STATUS_INTERRUPT_ENABLE) (reti : motive STATUS_INTERRUPT_ENABLE_IMMEDIATE)
    (other : ∀ st, (st == STATUS_STOP) = false → (st == STATUS_HALT) = false → (st == STATUS_INTERRUPT_DISABLE) = false →
      (st == STATUS_INTERRUPT_ENABLE) = false → (st == STATUS_INTERRUPT_ENABLE_IMMEDIATE) = false → motive st)
    (st : Nat) : motive st := by
  by_cases h1 : st = STATUS_STOP
  · exact h1 ▸ stop
  by_cases h2 : st = STATUS_HALT
  · exact h2 ▸ halt
  by_cases h3 : st = STATUS_INTERRUPT_DISABLE
  · exact h3 ▸ di
  by_cases h4 : st = STATUS_INTERRUPT_ENABLE
  · exact h4 ▸ ei
  by_cases h5 : st = STATUS_INTERRUPT_ENABLE_IMMEDIATE
  · exact h5 ▸ reti
  exact other st (beq_false_of_ne h1) (beq_false_of_ne h2) (beq_false_of_ne h3) (beq_false_of_ne h4) (beq_false_of_ne h5)

theorem afterOp_eq (c : State) (r : Regs) (b : Bus.State) (status : Nat) :
    afterOp c r b status =
      (let charged := c.charged + (r.cycles - c.regs.cycles)
       let ime := if c.ime == .EnableNext then .Enabled else c.ime
       let c : State := { c with regs := r, bus := b, ime := ime, charged := charged }
       if status == STATUS_STOP then { c with run := .Stop }
       else if status == STATUS_HALT then { c with run := .Halt }
       else if status == STATUS_INTERRUPT_DISABLE then { c with ime := .Disabled }
       else if status == STATUS_INTERRUPT_ENABLE then (if c.ime == .Disabled then { c with ime := .EnableNext } else c)
       else if status == STATUS_INTERRUPT_ENABLE_IMMEDIATE then { c with ime := .Enabled }
       else c) := by
  cases status using status_cases with
  | ei => cases c with | mk _ _ ime => cases ime <;> rfl
  | other st h1 h2 h3 h4 h5 => simp only [afterOp, imeAfter, runAfter, h1, h2, h3, h4, h5, Bool.false_eq_true, if_false]
  | _ => rfl

theorem runInterp_eq (dev : Dev) (c : State) :
    runInterp dev c = Cpu.runNextOp c.regs c.bus >>= fun x => catchUp dev (afterOp c x.1 x.2.1 x.2.2.1) false := by
  unfold runInterp
  congr 1
  funext x
  obtain ⟨r, b, status, e⟩ := x
  simp only [afterOp_eq]

theorem afterBlock_eq (c : State) (r : Regs) (b : Bus.State) (status : Nat) :
    afterBlock c r b status =
      (let charged := c.charged + (r.cycles - c.regs.cycles)
       let c : State := { c with regs := r, bus := b, charged := charged }
       if status == STATUS_STOP then { c with run := .Stop }
       else if status == STATUS_HALT then { c with run := .Halt }
       else if status == STATUS_INTERRUPT_DISABLE then { c with ime := .Disabled }
       else if status == STATUS_INTERRUPT_ENABLE || status == STATUS_INTERRUPT_ENABLE_IMMEDIATE then { c with ime := .Enabled }
       else c) := by
  cases status using status_cases with
  | other st h1 h2 h3 h4 h5 =>
    simp only [afterBlock, imeAfterBlock, runAfter, h1, h2, h3, h4, h5, Bool.false_eq_true, if_false, Bool.or_self]
  | _ => rfl

theorem runCodeBlockInterp_eq (dev : Dev) (c : State) :
    runCodeBlockInterp dev c =
      Cpu.runCodeBlock c.regs c.bus 65536 >>= fun x => catchUp dev (afterBlock c x.1 x.2.1 x.2.2) true := by
  unfold runCodeBlockInterp
  congr 1
  funext x
  obtain ⟨r, b, status⟩ := x
  simp only [afterBlock_eq]

theorem update_run (dev : Dev) (c : State) (h : c.run = .Run) : update dev c = runInterp dev c := by
  unfold update; rw [h]

theorem update_halted (dev : Dev) (c : State) (h : c.run ≠ .Run) :
    update dev c = dev c.bus 4 >>= fun bus => handleInterrupt (sampledHalted c bus) := by
  unfold update
  split
  · rename_i hr; exact absurd hr h
  · rfl

/-! ### what `handle_interrupt` does to the counters and the control state, with no assumption on the state -/

theorem handleInterrupt_outcomes {c c' : State} (h : handleInterrupt c = .ok c') :
    (activeInterrupts c.bus = 0 ∧ c' = c) ∨
    (activeInterrupts c.bus ≠ 0 ∧ c.ime ≠ .Enabled ∧ c' = { c with run := .Run }) ∨
    (activeInterrupts c.bus ≠ 0 ∧ c.ime = .Enabled ∧ ∃ b1 b2 sp2, c' = dispatched c b1 b2 sp2) := by
  by_cases h0 : activeInterrupts c.bus = 0
  · exact Or.inl ⟨h0, ok_inj h (handleInterrupt_idle c h0)⟩
  by_cases hi : c.ime = .Enabled
  · rw [handleInterrupt_enabled c h0 hi] at h
    obtain ⟨b1, _, h⟩ := bind_ok_elim h
    obtain ⟨b2, _, h⟩ := bind_ok_elim h
    exact Or.inr (Or.inr ⟨h0, hi, b1, b2, _, (Except.ok.inj h).symm⟩)
  · exact Or.inr (Or.inl ⟨h0, hi, ok_inj h (handleInterrupt_masked c h0 hi)⟩)

/-- a bus predicate that every write and the IF acknowledge keep is kept by `handle_interrupt` (two stack writes and the
acknowledge) -/
theorem handleInterrupt_inv {P : Bus.State → Prop}
    (hw : ∀ {s s' : Bus.State} {a v : Nat}, Bus.write s a v = .ok s' → P s → P s')
    (hifl : ∀ (b : Bus.State) (x : Nat), P b → P { b with io := { b.io with ifl := x } })
    {c c' : State} (h : handleInterrupt c = .ok c') (hp : P c.bus) : P c'.bus := by
  rw [handleInterrupt_unfold] at h
  split at h
  · injection h with h; subst h; exact hp
  · split at h
    · injection h with h; subst h; exact hp
    · obtain ⟨b1, h1, h⟩ := bind_ok_elim h
      obtain ⟨b2, h2, h⟩ := bind_ok_elim h
      injection h with h; subst h
      exact hifl _ _ (hw h2 (hw h1 hp))

/-- the time invariant of C09: clocks delivered + 4 × (cycles charged but not yet delivered) = 4 × cycles charged -/
def TimeInv (c : State) : Prop := c.delivered + 4 * c.regs.cycles = 4 * c.charged

theorem handleInterrupt_delivered {c c' : State} (h : handleInterrupt c = .ok c') : c'.delivered = c.delivered := by
  rcases handleInterrupt_outcomes h with ⟨_, rfl⟩ | ⟨_, _, rfl⟩ | ⟨_, _, _, _, _, rfl⟩ <;> rfl

theorem handleInterrupt_timeInv {c c' : State} (h : handleInterrupt c = .ok c') (hi : TimeInv c) : TimeInv c' := by
  rcases handleInterrupt_outcomes h with ⟨_, rfl⟩ | ⟨_, _, rfl⟩ | ⟨_, _, b1, b2, sp2, rfl⟩
  · exact hi
  · exact hi
  · unfold TimeInv at *
    show c.delivered + 4 * (c.regs.cycles + 5) = 4 * (c.charged + 5)
    omega

/-- no dispatch without IME = Enabled: registers, bus and IME come through unchanged -/
theorem handleInterrupt_no_dispatch {c c' : State} (h : handleInterrupt c = .ok c') (hi : c.ime ≠ .Enabled) :
    c'.regs = c.regs ∧ c'.bus = c.bus ∧ c'.ime = c.ime ∧ c'.charged = c.charged ∧ c'.delivered = c.delivered ∧
    c'.run = (if activeInterrupts c.bus ≠ 0 then .Run else c.run) := by
  rcases handleInterrupt_outcomes h with ⟨h0, rfl⟩ | ⟨h0, _, rfl⟩ | ⟨_, he, _⟩
  · exact ⟨rfl, rfl, rfl, rfl, rfl, (if_neg (not_not_intro h0)).symm⟩
  · exact ⟨rfl, rfl, rfl, rfl, rfl, (if_pos h0).symm⟩
  · exact absurd he hi

theorem handleInterrupt_quiet {c c' : State} (h : handleInterrupt c = .ok c') (h0 : activeInterrupts c.bus = 0) : c' = c :=
  ok_inj h (handleInterrupt_idle c h0)

/-- pending and IME = Enabled: a dispatch — run state Run, IME off, +5 cycles, PC at a vector (or 0 when cancelled) -/
theorem handleInterrupt_dispatch {c c' : State} (h : handleInterrupt c = .ok c') (h0 : activeInterrupts c.bus ≠ 0)
    (hi : c.ime = .Enabled) :
    c'.run = .Run ∧ c'.ime = .Disabled ∧ c'.regs.cycles = c.regs.cycles + 5 ∧ c'.charged = c.charged + 5 ∧
    c'.regs.ip ∈ [0x00, 0x40, 0x48, 0x50, 0x58, 0x60] := by
  rcases handleInterrupt_outcomes h with ⟨h1, _⟩ | ⟨_, h1, _⟩ | ⟨_, _, b1, b2, sp2, rfl⟩
  · exact absurd h1 h0
  · exact absurd hi h1
  · exact ⟨rfl, rfl, rfl, rfl, chain_vector_mem _⟩

/-! ### the shape of a step: execute, catch up (`dev`), then sample and dispatch -/

theorem runInterp_shape {dev : Dev} {c c' : State} (h : runInterp dev c = .ok c') :
    ∃ r b st e bus, Cpu.runNextOp c.regs c.bus = .ok (r, b, st, e) ∧ dev b (r.cycles * 4) = .ok bus ∧
      handleInterrupt (sampled (afterOp c r b st) bus false) = .ok c' := by
  rw [runInterp_eq] at h
  obtain ⟨⟨r, b, st, e⟩, h1, h⟩ := bind_ok_elim h
  rw [catchUp_eq] at h
  obtain ⟨bus, h2, h⟩ := bind_ok_elim h
  exact ⟨r, b, st, e, bus, h1, h2, h⟩

theorem runCodeBlockInterp_shape {dev : Dev} {c c' : State} (h : runCodeBlockInterp dev c = .ok c') :
    ∃ r b st bus, Cpu.runCodeBlock c.regs c.bus 65536 = .ok (r, b, st) ∧ dev b (r.cycles * 4) = .ok bus ∧
      handleInterrupt (sampled (afterBlock c r b st) bus true) = .ok c' := by
  rw [runCodeBlockInterp_eq] at h
  obtain ⟨⟨r, b, st⟩, h1, h⟩ := bind_ok_elim h
  rw [catchUp_eq] at h
  obtain ⟨bus, h2, h⟩ := bind_ok_elim h
  exact ⟨r, b, st, bus, h1, h2, h⟩

theorem update_halted_shape {dev : Dev} {c c' : State} (hr : c.run ≠ .Run) (h : update dev c = .ok c') :
    ∃ bus, dev c.bus 4 = .ok bus ∧ handleInterrupt (sampledHalted c bus) = .ok c' := by
  rw [update_halted dev c hr] at h
  obtain ⟨bus, h2, h⟩ := bind_ok_elim h
  exact ⟨bus, h2, h⟩

/-- a `run_interp` step, given what the instruction did and what the devices did -/
theorem runInterp_of {dev : Dev} {c : State} {r : Regs} {b bus : Bus.State} {st : Nat} {e : Bool}
    (hx : Cpu.runNextOp c.regs c.bus = .ok (r, b, st, e)) (hd : dev b (r.cycles * 4) = .ok bus) :
    runInterp dev c = handleInterrupt (sampled (afterOp c r b st) bus false) := by
  rw [runInterp_eq]
  refine (bind_ok hx _).trans ?_
  rw [catchUp_eq]
  exact bind_ok hd _

theorem update_halted_of {dev : Dev} {c : State} {bus : Bus.State} (hr : c.run ≠ .Run) (hd : dev c.bus 4 = .ok bus) :
    update dev c = handleInterrupt (sampledHalted c bus) := by
  rw [update_halted dev c hr]; exact bind_ok hd _

theorem imeAfter_di (ime : Ime) : imeAfter ime STATUS_INTERRUPT_DISABLE = .Disabled := by cases ime <;> rfl
theorem imeAfter_reti (ime : Ime) : imeAfter ime STATUS_INTERRUPT_ENABLE_IMMEDIATE = .Enabled := by cases ime <;> rfl
theorem imeAfter_ei_disabled : imeAfter .Disabled STATUS_INTERRUPT_ENABLE = .EnableNext := rfl
theorem imeAfter_ei_enabled : imeAfter .Enabled STATUS_INTERRUPT_ENABLE = .Enabled := rfl
theorem imeAfter_ei_pending : imeAfter .EnableNext STATUS_INTERRUPT_ENABLE = .Enabled := rfl
/-- an instruction other than EI / DI / RETI only lets a pending EI take effect -/
theorem imeAfter_plain (ime : Ime) {st : Nat} (h3 : (st == STATUS_INTERRUPT_DISABLE) = false)
    (h4 : (st == STATUS_INTERRUPT_ENABLE) = false) (h5 : (st == STATUS_INTERRUPT_ENABLE_IMMEDIATE) = false) :
    imeAfter ime st = if ime == .EnableNext then .Enabled else ime := by
  simp only [imeAfter, h3, h4, h5, Bool.false_eq_true, if_false, ite_self]
/-- a pending EI takes effect when the next instruction completes, unless that instruction is DI -/
theorem imeAfter_pending (st : Nat) (h : st ≠ STATUS_INTERRUPT_DISABLE) : imeAfter .EnableNext st = .Enabled := by
  cases st using status_cases with
  | di => exact absurd rfl h
  | other st _ _ h3 h4 h5 => rw [imeAfter_plain _ h3 h4 h5]; rfl
  | _ => rfl
/-- an instruction other than EI / DI / RETI leaves Enabled and Disabled alone -/
theorem imeAfter_other (ime : Ime) (st : Nat) (h3 : st ≠ STATUS_INTERRUPT_DISABLE) (h4 : st ≠ STATUS_INTERRUPT_ENABLE)
    (h5 : st ≠ STATUS_INTERRUPT_ENABLE_IMMEDIATE) (hp : ime ≠ .EnableNext) : imeAfter ime st = ime := by
  rw [imeAfter_plain ime (beq_false_of_ne h3) (beq_false_of_ne h4) (beq_false_of_ne h5)]
  cases ime <;> first | rfl | exact absurd rfl hp
/-- the only way IME becomes Enabled without having been Enabled or pending is RETI -/
theorem imeAfter_enabled_iff (st : Nat) : imeAfter .Disabled st = .Enabled ↔ st = STATUS_INTERRUPT_ENABLE_IMMEDIATE := by
  refine ⟨fun h => ?_, fun h => h ▸ rfl⟩
  cases st using status_cases with
  | reti => rfl
  | other st _ _ h3 h4 h5 => rw [imeAfter_plain _ h3 h4 h5] at h; cases h
  | _ => cases h

/-- the catch-up hands over exactly the cycles that the instruction (or block) charged -/
theorem sampled_timeInv {c a : State} (hi : TimeInv c) (hd : a.delivered = c.delivered)
    (hc : a.charged = c.charged + (a.regs.cycles - c.regs.cycles)) (hle : c.regs.cycles ≤ a.regs.cycles)
    (bus : Bus.State) (rec : Bool) : TimeInv (sampled a bus rec) := by
  unfold TimeInv at *
  show a.delivered + a.regs.cycles * 4 + 4 * 0 = 4 * a.charged
  omega

theorem sampledHalted_timeInv {c : State} (hi : TimeInv c) (bus : Bus.State) : TimeInv (sampledHalted c bus) := by
  unfold TimeInv at *
  show c.delivered + 4 + 4 * c.regs.cycles = 4 * (c.charged + 1)
  omega

theorem runInterp_timeInv {dev : Dev} {c c' : State} (hi : TimeInv c) (h : runInterp dev c = .ok c') : TimeInv c' := by
  obtain ⟨r, b, st, e, bus, h1, _, h3⟩ := runInterp_shape h
  exact handleInterrupt_timeInv h3 (sampled_timeInv (a := afterOp c r b st) hi rfl rfl (Nat.le_of_succ_le (runNextOp_cycles h1).1) bus false)

theorem runCodeBlockInterp_timeInv {dev : Dev} {c c' : State} (hi : TimeInv c) (h : runCodeBlockInterp dev c = .ok c') :
    TimeInv c' := by
  obtain ⟨r, b, st, bus, h1, _, h3⟩ := runCodeBlockInterp_shape h
  exact handleInterrupt_timeInv h3 (sampled_timeInv (a := afterBlock c r b st) hi rfl rfl (Nat.le_of_succ_le (runCodeBlock_cycles h1)) bus true)

theorem update_timeInv {dev : Dev} {c c' : State} (hi : TimeInv c) (h : update dev c = .ok c') : TimeInv c' := by
  by_cases hr : c.run = .Run
  · rw [update_run dev c hr] at h; exact runInterp_timeInv hi h
  · obtain ⟨bus, _, h3⟩ := update_halted_shape hr h
    exact handleInterrupt_timeInv h3 (sampledHalted_timeInv hi bus)

/-- clocks handed to the devices by one `run_interp` step: 4 × the cycle counter after the instruction -/
theorem runInterp_delivered {dev : Dev} {c c' : State} (h : runInterp dev c = .ok c') :
    c.delivered + 4 * (c.regs.cycles + 1) ≤ c'.delivered ∧ c'.delivered ≤ c.delivered + 4 * (c.regs.cycles + 9) := by
  obtain ⟨r, b, st, e, bus, h1, _, h3⟩ := runInterp_shape h
  have hc := runNextOp_cycles h1
  rw [handleInterrupt_delivered h3]
  show c.delivered + 4 * (c.regs.cycles + 1) ≤ c.delivered + r.cycles * 4 ∧
    c.delivered + r.cycles * 4 ≤ c.delivered + 4 * (c.regs.cycles + 9)
  omega

theorem runCodeBlockInterp_delivered {dev : Dev} {c c' : State} (h : runCodeBlockInterp dev c = .ok c') :
    c.delivered + 4 * (c.regs.cycles + 1) ≤ c'.delivered := by
  obtain ⟨r, b, st, bus, h1, _, h3⟩ := runCodeBlockInterp_shape h
  have hc := runCodeBlock_cycles h1
  rw [handleInterrupt_delivered h3]
  show c.delivered + 4 * (c.regs.cycles + 1) ≤ c.delivered + r.cycles * 4
  omega

theorem update_halted_delivered {dev : Dev} {c c' : State} (hr : c.run ≠ .Run) (h : update dev c = .ok c') :
    c'.delivered = c.delivered + 4 := by
  obtain ⟨bus, _, h3⟩ := update_halted_shape hr h
  exact handleInterrupt_delivered h3

/-- `Core::update` with the `jit` feature (block stepping; the interpreter as the block engine): a whole block per step
while running, the same suspended step otherwise -/
def updateBlock (dev : Dev) (c : State) : Except Bus.Panic State :=
  if c.run = .Run then runCodeBlockInterp dev c else update dev c

theorem updateBlock_timeInv {dev : Dev} {c c' : State} (hi : TimeInv c) (h : updateBlock dev c = .ok c') : TimeInv c' := by
  unfold updateBlock at h
  split at h
  · exact runCodeBlockInterp_timeInv hi h
  · exact update_timeInv hi h

/-- between steps the cycle counter holds only the five cycles of a dispatch, and nothing while suspended -/
def Small (c : State) : Prop := c.regs.cycles ≤ 5 ∧ (c.run ≠ .Run → c.regs.cycles = 0)

theorem handleInterrupt_small {c c' : State} (h : handleInterrupt c = .ok c') (h0 : c.regs.cycles = 0) : Small c' := by
  rcases handleInterrupt_outcomes h with ⟨_, rfl⟩ | ⟨_, _, rfl⟩ | ⟨_, _, b1, b2, sp2, rfl⟩
  · exact ⟨by omega, fun _ => h0⟩
  · exact ⟨by show c.regs.cycles ≤ 5; omega, fun _ => h0⟩
  · exact ⟨by show c.regs.cycles + 5 ≤ 5; omega, fun hr => absurd rfl hr⟩

theorem update_small {dev : Dev} {c c' : State} (hs : Small c) (h : update dev c = .ok c') : Small c' := by
  by_cases hr : c.run = .Run
  · rw [update_run dev c hr] at h
    obtain ⟨r, b, st, e, bus, _, _, h3⟩ := runInterp_shape h
    exact handleInterrupt_small h3 rfl
  · obtain ⟨bus, _, h3⟩ := update_halted_shape hr h
    exact handleInterrupt_small h3 (hs.2 hr)

theorem updateBlock_small {dev : Dev} {c c' : State} (hs : Small c) (h : updateBlock dev c = .ok c') : Small c' := by
  unfold updateBlock at h
  split at h
  · obtain ⟨r, b, st, bus, _, _, h3⟩ := runCodeBlockInterp_shape h
    exact handleInterrupt_small h3 rfl
  · exact update_small hs h

/-- every step hands the devices at least 4 clocks -/
theorem update_progress {dev : Dev} {c c' : State} (h : update dev c = .ok c') : c.delivered + 4 ≤ c'.delivered := by
  by_cases hr : c.run = .Run
  · rw [update_run dev c hr] at h; have := runInterp_delivered h; omega
  · have := update_halted_delivered hr h; omega

theorem updateBlock_progress {dev : Dev} {c c' : State} (h : updateBlock dev c = .ok c') : c.delivered + 4 ≤ c'.delivered := by
  unfold updateBlock at h
  split at h
  · have := runCodeBlockInterp_delivered h; omega
  · exact update_progress h

/-- an instruction-stepped step hands the devices at most 56 clocks (5 dispatch cycles + 6 + 3) -/
theorem update_step_le {dev : Dev} {c c' : State} (hs : Small c) (h : update dev c = .ok c') : c'.delivered ≤ c.delivered + 56 := by
  by_cases hr : c.run = .Run
  · rw [update_run dev c hr] at h; have := runInterp_delivered h; have := hs.1; omega
  · have := update_halted_delivered hr h; omega

/-- `n` successive steps of `f` (any of `update dev`, `runInterp dev`, `runCodeBlockInterp dev`); a panic ends the run -/
def iter (f : State → Except Bus.Panic State) : Nat → State → Except Bus.Panic State
  | 0, c => .ok c
  | n+1, c => f c >>= iter f n

theorem iter_invariant {f : State → Except Bus.Panic State} {P : State → Prop}
    (hstep : ∀ c c', P c → f c = .ok c' → P c') : ∀ (n : Nat) (c c' : State), P c → iter f n c = .ok c' → P c' := by
  intro n
  induction n with
  | zero => intro c c' hp h; injection h with h; subst h; exact hp
  | succ n ih =>
    intro c c' hp h
    obtain ⟨c1, h1, h2⟩ := bind_ok_elim h
    exact ih c1 c' (hstep c c1 hp h1) h2

end GbVerif.CoreProofs
