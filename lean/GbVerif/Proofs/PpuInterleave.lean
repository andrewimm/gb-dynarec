import GbVerif.Model.Tile
import GbVerif.Spec.Bits
import GbVerif.Proofs.Enum
import GbVerif.Proofs.NatBits
/-!
C15 stage (i): `tile::interleave` (64-bit multiply trick) equals the bit interleave of its two arguments.
The two bit planes are computed independently and joined by `|||` on disjoint masks, so the kernel evaluates
each plane for the 256 bytes and the join is arithmetic.  The namespace is `PpuBits`, which Proofs/PpuBits.lean continues.
-/
namespace GbVerif.PpuBits
open GbVerif.Ppu GbVerif.FrameSpec GbVerif.Enum

/-- two-bit digit `k` of the interleave: bit `k` of `low` + 2 × bit `k` of `high` -/
def digit (low high k : Nat) : Nat := bit low k + 2 * bit high k

/-- bit interleave of two bytes (bit `2k` = bit `k` of `low`, bit `2k+1` = bit `k` of `high`),
written as a base-4 number -/
def interleaveBits (low high : Nat) : Nat :=
  digit low high 0 + 4 * digit low high 1 + 16 * digit low high 2 + 64 * digit low high 3 +
  256 * digit low high 4 + 1024 * digit low high 5 + 4096 * digit low high 6 + 16384 * digit low high 7

/-- one plane of `interleave`: the bits of `v` spread by the multiply trick, then shifted and masked -/
def spread (v shift mask : Nat) : Nat :=
  (((((v * 0x0101010101010101) % two64) &&& 0x8040201008040201) * 0x0102040810204081) % two64) >>> shift &&& mask

theorem interleave_planes (l h : Nat) : interleave l h = (spread h 48 0xaaaa ||| spread l 49 0x5555) % 65536 := rfl

def spreadCheck (b : Nat) : Bool :=
  spread b 48 0xaaaa == interleaveBits 0 b && spread b 49 0x5555 == interleaveBits b 0

theorem spread_all : allRange spreadCheck 8 0 = true := by decide +kernel

theorem interleaveBits_planes (l h : Nat) : interleaveBits 0 h + interleaveBits l 0 = interleaveBits l h := by
  have z (k : Nat) : bit 0 k = 0 := by unfold bit; simp
  simp only [interleaveBits, digit, z]
  omega

theorem interleave_eq (l h : Nat) (hl : l < 256) (hh : h < 256) : interleave l h = interleaveBits l h := by
  have disj : spread h 48 0xaaaa &&& spread l 49 0x5555 = 0 := by
    unfold spread
    generalize ((((_ * _) % _) &&& _) * _ % _) >>> 48 = a, ((((_ * _) % _) &&& _) * _ % _) >>> 49 = b
    rw [show a &&& 0xaaaa &&& (b &&& 0x5555) = a &&& b &&& (0xaaaa &&& 0x5555) by ac_rfl]
    exact Nat.and_zero _
  have lt : spread h 48 0xaaaa ||| spread l 49 0x5555 < 2^16 :=
    Nat.or_lt_two_pow (Nat.lt_of_le_of_lt Nat.and_le_right (by decide))
      (Nat.lt_of_le_of_lt Nat.and_le_right (by decide))
  have H := forall_lt_of_allRange spreadCheck 8 spread_all h hh
  have L := forall_lt_of_allRange spreadCheck 8 spread_all l hl
  simp only [spreadCheck, Bool.and_eq_true, beq_iff_eq] at H L
  rw [interleave_planes, Nat.mod_eq_of_lt lt, NatBits.or_eq_add_of_and_eq_zero _ _ disj, H.1, L.2]
  exact interleaveBits_planes l h

end GbVerif.PpuBits
