import GbVerif.Proofs.Sm83Cls1
import GbVerif.Proofs.Sm83Cls2
import GbVerif.Proofs.Sm83Cls3
/-! Refinement of the unprefixed opcodes 0x80..0xBF (one goal per first byte, operand bytes symbolic). -/
namespace GbVerif.C05
open GbVerif.Interp GbVerif.Enum

theorem main_2 {β : Type} {B : BusOps β} (hB : ByteBus B) : PTree (Goal B) 6 128 := by
  simp only [PTree]
  repeat' constructor
  all_goals (
    intro b1 b2 hb1 hb2 h1 h2
    conv => arg 2; whnf
    first
    | exact op_alu (fun _ _ => rfl) (fun _ k hc => ⟨getReg_conc hc k _, getR_lt hc _⟩)
    | exact op_alu_hl hB (fun _ _ => rfl))

end GbVerif.C05
