import GbVerif.Proofs.CoreStep
import GbVerif.Proofs.Sm83Rel
import GbVerif.Spec.CoreSpec
/-!
C08: one step of the model of `Core::update` (instruction-stepped, devices that only let time pass) is one step of the
step spec `CoreSpec.step`, under the abstraction `absS`, *given* the instruction-level refinement `InstrRefines`
(an explicit premise — see its docstring for where it comes from).  What is proved here: the control skeleton — fetch,
undefined-opcode check, the EI / DI / RETI rule, HALT / STOP, cycle charging, and the interrupt check (through C07's
`dispatch_spec`) — agrees with the spec.
-/
namespace GbVerif.CoreProofs
open GbVerif.Core GbVerif.Interp
open GbVerif.SM83 (Outcome)

def noTime : Dev := fun b _ => .ok b

/-- the abstraction: registers through `C05.abs`; IME, run state, bus, charged cycles as they are; "the last step ended with
a dispatch" = the cycle counter still holds the five dispatch cycles -/
def absS (c : State) : CoreSpec.S :=
  { cpu := C05.abs c.regs, bus := c.bus, ime := c.ime, run := c.run, charged := c.charged, dispatched := c.regs.cycles != 0 }

/-- well-formed core state for the refinement: 16-bit register pairs (`C05.WF`), bus buffers and five-bit IF/IE as for C07,
and no pending dispatch cycles while suspended -/
structure WFs (c : State) : Prop where
  regs : C05.WF c.regs
  bus : BusProofs.WF c.bus
  io : IoInv c.bus.io
  idle : c.run ≠ .Run → c.regs.cycles = 0

/-- **The premise of `update_refines`** (instruction-level refinement, model ⟶ spec): whenever `run_next_op` returns from a
well-formed state, the three bytes at PC read through the bus, and `SM83.step` on the abstracted registers yields the
abstracted result registers, the same bus, `cyc` = the growth of the cycle counter, and an outcome (never `undefined`) whose
status word is the one returned; well-formedness is kept.
It is the composition of (a) `C05.step_refines_impl` (`stepModel` ⟶ `SM83.step` for byte-valued buses, Props/C05.lean,
from `step_refines` of Proofs/Sm83Main.lean), (b) `C05.run_next_op_is_step` (`runNextOp` = `fetch3` then `stepModel`),
(c) the fetch view equals the data read in ROM / WRAM / HRAM (`C10.fetch_eq_read`) and (d) byte-valuedness of every
memory of the bus model and preservation of `BusProofs.WF` / `IoInv` by the writes of an instruction.  (c)–(d) are not
composed here. -/
def InstrRefines : Prop :=
  ∀ (r : Regs) (b : Bus.State) (r' : Regs) (b' : Bus.State) (st : Nat) (e : Bool),
    C05.WF r → BusProofs.WF b → IoInv b.io → Cpu.runNextOp r b = .ok (r', b', st, e) →
    ∃ b0 b1 b2 cyc out,
      Bus.read b r.ip = .ok b0 ∧ Bus.read b ((r.ip + 1) % 65536) = .ok b1 ∧ Bus.read b ((r.ip + 2) % 65536) = .ok b2 ∧
      SM83.step CoreSpec.mem (C05.abs r) b b0 b1 b2 = .ok (C05.abs r', b', cyc, out) ∧
      out ≠ .undefined ∧ st = C05.statusOf out ∧ C05.WF r' ∧ r'.cycles = r.cycles + cyc ∧ BusProofs.WF b' ∧ IoInv b'.io

def specIme (ime : Ime) (out : Outcome) : Ime :=
  let ime := if ime == .EnableNext then .Enabled else ime
  match out with
  | .di => .Disabled
  | .reti => .Enabled
  | .ei => if ime == .Disabled then .EnableNext else ime
  | _ => ime

def specRun (out : Outcome) : RunState := match out with | .halt => .Halt | .stop => .Stop | _ => .Run

theorem imeAfter_spec (ime : Ime) (out : Outcome) (h : out ≠ .undefined) : imeAfter ime (C05.statusOf out) = specIme ime out := by
  cases out <;> cases ime <;> first | rfl | exact absurd rfl h

theorem runAfter_spec (out : Outcome) (h : out ≠ .undefined) : runAfter .Run (C05.statusOf out) = specRun out := by
  cases out <;> first | rfl | exact absurd rfl h

/-- the spec state handed to `irq` after an instruction -/
def specMid (s : CoreSpec.S) (cpu : SM83.Cpu) (bus : Bus.State) (ime : Ime) (run : RunState) (charged : Nat) : CoreSpec.S :=
  { s with cpu := cpu, bus := bus, ime := ime, run := run, charged := charged }

/-- the abstraction of a model state with a given `dispatched` flag -/
def absD (p : State) (d : Bool) : CoreSpec.S :=
  { cpu := C05.abs p.regs, bus := p.bus, ime := p.ime, run := p.run, charged := p.charged, dispatched := d }

theorem abs_upd (r : Regs) (sp ip k : Nat) :
    C05.abs { r with sp := sp, cycles := k, ip := ip } = { C05.abs r with sp := sp, pc := ip } := rfl

theorem abs_cycles (r : Regs) (k : Nat) : C05.abs { r with cycles := k } = C05.abs r := rfl

theorem S_ext (x y : CoreSpec.S) (h1 : x.cpu = y.cpu) (h2 : x.bus = y.bus) (h3 : x.ime = y.ime) (h4 : x.run = y.run)
    (h5 : x.charged = y.charged) (h6 : x.dispatched = y.dispatched) : x = y := by
  cases x; cases y; simp only [CoreSpec.S.mk.injEq]; exact ⟨h1, h2, h3, h4, h5, h6⟩

/-- the interrupt check of the spec on the abstraction of `p` is the abstraction of the model's interrupt check -/
theorem irq_abs (p p' : State) (d : Bool) (hp : WFc p) (hcyc : p.regs.cycles = 0) (h : handleInterrupt p = .ok p') :
    CoreSpec.irq (absD p d) = .ok (absS p') := by
  -- the spec runs the dispatch spec on a fresh core state `q` with the same SP, PC, bus, IME, run state
  unfold CoreSpec.irq absD
  simp only []
  generalize hq : ({ regs := { sp := (C05.abs p.regs).sp, ip := (C05.abs p.regs).pc }, bus := p.bus, ime := p.ime, run := p.run } : State) = q
  obtain ⟨hqb, hqi, hqs, hqp⟩ : q.bus = p.bus ∧ q.ime = p.ime ∧ q.regs.sp = p.regs.sp ∧ q.regs.ip = p.regs.ip := by
    subst hq; exact ⟨rfl, rfl, rfl, rfl⟩
  have hqw : WFc q := ⟨hqb ▸ hp.io, hqb ▸ hp.bus, hqs ▸ hp.sp, hqp ▸ hp.ip⟩
  rw [← CoreProofs.dispatch_spec q hqw]
  rcases handleInterrupt_cases hp h with ⟨h0, rfl⟩ | ⟨h0, hi, rfl⟩ | ⟨h0, hi, b1, b2, w1, w2, _, _, _, rfl⟩
  · rw [handleInterrupt_idle q (hqb ▸ h0)]
    subst hq
    exact congrArg Except.ok (S_ext _ _ rfl rfl rfl rfl rfl (by rw [absS, hcyc]))
  · rw [handleInterrupt_masked q (hqb ▸ h0) (hqi ▸ hi)]
    subst hq
    exact congrArg Except.ok (S_ext _ _ rfl rfl rfl rfl rfl (by rw [absS, hcyc]))
  · rw [handleInterrupt_closed q hqw (hqb ▸ h0) (hqi ▸ hi) (b1 := b1) (b2 := b2) (by rw [hqb, hqs, hqp]; exact w1)
      (by rw [hqs, hqp]; exact w2)]
    subst hq
    refine congrArg Except.ok (S_ext _ _ ?_ ?_ ?_ ?_ ?_ ?_)
    · exact (abs_upd p.regs _ _ _).symm
    · rfl
    · rfl
    · rfl
    · rfl
    · show ((0 : Nat) + 5 != 0) = (p.regs.cycles + 5 != 0)
      rw [hcyc]

theorem wfs_dispatched (p : State) (b1 b2 : Bus.State) (sp2 : Nat) (hr : C05.WF p.regs)
    (hw : WFc (dispatched p b1 b2 sp2)) : WFs (dispatched p b1 b2 sp2) :=
  ⟨⟨hr.1, hr.2.1, hr.2.2.1, hr.2.2.2.1, hr.2.2.2.2.1, hw.sp, hw.ip⟩, hw.bus, hw.io, fun hn => absurd rfl hn⟩

theorem wfs_handleInterrupt (p p' : State) (hr : C05.WF p.regs) (hp : WFc p) (hcyc : p.regs.cycles = 0)
    (h : handleInterrupt p = .ok p') : WFs p' := by
  rcases handleInterrupt_cases hp h with ⟨_, rfl⟩ | ⟨_, _, rfl⟩ | ⟨_, _, b1, b2, _, _, _, i2, w2, rfl⟩
  · exact ⟨hr, hp.bus, hp.io, fun _ => hcyc⟩
  · exact ⟨hr, hp.bus, hp.io, fun _ => hcyc⟩
  · exact wfs_dispatched p b1 b2 _ hr (wfc_dispatched p b1 b2 i2 w2 _ (mod_64k _))

/-- **model step ⟶ spec step**, given the instruction-level refinement -/
theorem update_refines (hI : InstrRefines) (c c' : State) (hw : WFs c) (h : update noTime c = .ok c') :
    CoreSpec.step (absS c) = .ok (some (absS c')) ∧ WFs c' := by
  by_cases hr : c.run = .Run
  · -- running: one instruction
    rw [update_run noTime c hr] at h
    obtain ⟨r, b, st, e, bus, hx, hd, h3⟩ := runInterp_shape h
    have hb : bus = b := by injection hd with hd; exact hd.symm
    subst hb
    obtain ⟨b0, b1, b2, cyc, out, r0, r1, r2, hs, hu, hst, wr, hcy, wb, wi⟩ := hI c.regs c.bus r bus st e hw.regs hw.bus hw.io hx
    subst hst
    have wp : WFc (sampled (afterOp c r bus (C05.statusOf out)) bus false) := ⟨wi, wb, wr.2.2.2.2.2.1, wr.2.2.2.2.2.2⟩
    have wr0 : C05.WF (sampled (afterOp c r bus (C05.statusOf out)) bus false).regs := wr
    refine ⟨?_, wfs_handleInterrupt _ _ wr0 wp rfl h3⟩
    have hirq := irq_abs _ c' (c.regs.cycles != 0) wp rfl h3
    unfold CoreSpec.step
    show (match (absS c).run with | .Run => _ | _ => _) = _
    have hrun : (absS c).run = .Run := hr
    rw [hrun]
    simp only []
    refine (bind_ok (show Bus.read (absS c).bus (absS c).cpu.pc = .ok b0 from r0) _).trans ?_
    refine (bind_ok (show Bus.read (absS c).bus (((absS c).cpu.pc + 1) % 65536) = .ok b1 from r1) _).trans ?_
    refine (bind_ok (show Bus.read (absS c).bus (((absS c).cpu.pc + 2) % 65536) = .ok b2 from r2) _).trans ?_
    refine (bind_ok (show SM83.step CoreSpec.mem (absS c).cpu (absS c).bus b0 b1 b2 = .ok (C05.abs r, bus, cyc, out) from hs) _).trans ?_
    simp only []
    have hne : (out == Outcome.undefined) = false := by cases out <;> first | rfl | exact absurd rfl hu
    rw [hne]
    simp only [Bool.false_eq_true, if_false]
    -- the state handed to `irq` is the abstraction of the state handed to `handle_interrupt`
    have key : specMid (absS c) (C05.abs r) bus (specIme c.ime out) (specRun out) (c.charged + cyc) =
        absD (sampled (afterOp c r bus (C05.statusOf out)) bus false) (c.regs.cycles != 0) := by
      show CoreSpec.S.mk .. = CoreSpec.S.mk ..
      congr 1
      · exact (imeAfter_spec c.ime out hu).symm
      · show specRun out = runAfter c.run (C05.statusOf out)
        rw [hr]; exact (runAfter_spec out hu).symm
      · show c.charged + cyc = c.charged + (r.cycles - c.regs.cycles)
        omega
    show (CoreSpec.irq (specMid (absS c) (C05.abs r) bus (specIme c.ime out) (specRun out) (c.charged + cyc)) >>=
        fun s' => (pure (some s') : Except Bus.Panic (Option CoreSpec.S))) = .ok (some (absS c'))
    rw [key, hirq]; rfl
  · -- suspended: time passes, the interrupt check runs
    obtain ⟨bus, hd, h3⟩ := update_halted_shape hr h
    have hb : bus = c.bus := by injection hd with hd; exact hd.symm
    subst hb
    have wp : WFc (sampledHalted c c.bus) := ⟨hw.io, hw.bus, hw.regs.2.2.2.2.2.1, hw.regs.2.2.2.2.2.2⟩
    have hc0 : (sampledHalted c c.bus).regs.cycles = 0 := hw.idle hr
    refine ⟨?_, wfs_handleInterrupt (sampledHalted c c.bus) _ hw.regs wp hc0 h3⟩
    have hirq := irq_abs _ c' (c.regs.cycles != 0) wp hc0 h3
    unfold CoreSpec.step
    show (match (absS c).run with | .Run => _ | _ => _) = _
    have hrun : (absS c).run = c.run := rfl
    rw [hrun]
    split
    · rename_i e; exact absurd e hr
    · show (CoreSpec.irq { absS c with charged := c.charged + 1 } >>= fun s' => (pure (some s') : Except Bus.Panic (Option CoreSpec.S))) = _
      have key : ({ absS c with charged := c.charged + 1 } : CoreSpec.S) = absD (sampledHalted c c.bus) (c.regs.cycles != 0) := rfl
      rw [key, hirq]; rfl

end GbVerif.CoreProofs
