import GbVerif.Proofs.Sm83Cls1
import GbVerif.Proofs.Sm83Cls2
import GbVerif.Proofs.Sm83Cls3
/-! Refinement of the unprefixed opcodes 0xC0..0xFF (one goal per first byte, operand bytes symbolic). -/
namespace GbVerif.C05
open GbVerif.Interp GbVerif.Enum

theorem main_3 {β : Type} {B : BusOps β} (hB : ByteBus B) : PTree (Goal B) 6 192 := by
  simp only [PTree]
  repeat' constructor
  all_goals (
    intro b1 b2 hb1 hb2 h1 h2
    first
    | exact absurd rfl h1
    | exact absurd rfl h2
    | (conv => arg 2; whnf
       first
       | exact op_rst (by decide)
       | exact op_push .BC (fun _ k hc => getReg16_conc hc k _ (by decide))
       | exact op_push .DE (fun _ k hc => getReg16_conc hc k _ (by decide))
       | exact op_push .HL (fun _ k hc => getReg16_conc hc k _ (by decide))
       | exact op_push .AF (fun _ k hc => getAF_conc hc k)
       | exact op_pop hB _ (by decide)
       | exact op_jp_cc _ (by decide) hb1 hb2
       | exact op_jp hb1 hb2
       | exact op_call_cc _ (by decide) hb1 hb2
       | exact op_call hb1 hb2
       | exact op_ret_cc hB _ (by decide)
       | exact op_ret hB
       | exact op_reti hB
       | exact op_jphl
       | exact op_ldsphl
       | exact op_addsp hb1
       | exact op_ldhlsp hb1
       | exact op_ld_a_abs hB _ (by first | rfl | omega)
       | exact op_st_a_abs _ (by first | rfl | omega)
       | exact op_ld_a_c hB
       | exact op_st_a_c
       | exact op_alu (fun _ _ => rfl) (fun _ _ _ => ⟨rfl, hb1⟩)
       | exact op_id (fun _ _ => rfl)))

end GbVerif.C05
