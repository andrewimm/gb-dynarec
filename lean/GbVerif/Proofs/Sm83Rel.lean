import GbVerif.Proofs.Sm83Abs
import GbVerif.Gen.DecoderOps
/-!
The refinement statement between one interpreter step (`decode` + `run_op` + the PC mask and base-clock charge of
`run_next_op`) and one SM83 instruction (`SM83.step`), and the proof schemas (one per bus-access shape) from which
every opcode class is obtained.
-/
namespace GbVerif.C05
open GbVerif.Interp GbVerif.Sm83Bits
open GbVerif.SM83 (Cpu mkF flagZ flagN flagH flagC Outcome)

variable {β : Type}

/-- the SM83 memory interface given by the interpreter's bus -/
def memOf (B : BusOps β) : SM83.Mem β := ⟨B.read, B.write⟩

/-- bus reads return bytes (the Rust bus returns `u8`) -/
def ByteBus (B : BusOps β) : Prop := ∀ m a v, B.read m a = .ok v → v < 256

/-- the interpreter status word for an SM83 control outcome -/
def statusOf : Outcome → Nat
  | .normal => STATUS_NORMAL | .stop => STATUS_STOP | .halt => STATUS_HALT
  | .di => STATUS_INTERRUPT_DISABLE | .ei => STATUS_INTERRUPT_ENABLE | .reti => STATUS_INTERRUPT_ENABLE_IMMEDIATE
  | .undefined => 255

/-- `run_next_op` minus the fetch: decode, `run_op`, mask the PC to 16 bits, charge the decoder's base clocks -/
def stepModel (B : BusOps β) (b0 b1 b2 : Nat) (r : Regs) (m : β) : Except Bus.Panic (Regs × β × Nat) :=
  let (op, len, clk) := Gen.decode b0 b1 b2
  (runOp B op r m len).map fun (r', m', st) => ({ r' with ip := r'.ip &&& 0xffff, cycles := r'.cycles + clk / 4 }, m', st)

/-- the final step of `run_next_op` on a result of `run_op` -/
def finish (clk : Nat) (x : Regs × β × Nat) : Regs × β × Nat :=
  ({ x.1 with ip := x.1.ip &&& 0xffff, cycles := x.1.cycles + clk / 4 }, x.2.1, x.2.2)

theorem stepModel_eq (B : BusOps β) (b0 b1 b2 : Nat) (r : Regs) (m : β) (op : Op) (len clk : Nat)
    (hd : Gen.decode b0 b1 b2 = (op, len, clk)) :
    stepModel B b0 b1 b2 r m = (runOp B op r m len).map (finish clk) := by
  simp only [stepModel, hd]; rfl

theorem decode_unprefixed {b0 : Nat} (b1 b2 : Nat) (h : b0 ≠ 0xCB) :
    Gen.decode b0 b1 b2 = (Gen.decOp b0 b1 b2, Gen.opLen b0, Gen.opClocks b0) := by
  simp only [Gen.decode, Gen.prefixByteOps, h, if_false]

/-- model result `x` against spec result `y`, from a state with cycle counter `k` -/
def Rel (k : Nat) (x : Except Bus.Panic (Regs × β × Nat)) (y : Except Bus.Panic (Cpu × β × Nat × Outcome)) : Prop :=
  match y with
  | .ok (c', m', cyc, out) => CWF c' ∧ x = .ok (conc c' (k + cyc), m', statusOf out)
  | .error e => x = .error e

/-- the interpreter step for bytes `b0 b1 b2` refines the SM83 instruction, from every well-formed state -/
def Refines (B : BusOps β) (b0 b1 b2 : Nat) : Prop :=
  ∀ c k m, CWF c → Rel k (stepModel B b0 b1 b2 (conc c k) m) (SM83.step (memOf B) c m b0 b1 b2)

theorem finish_advance (c : Cpu) (k len clk : Nat) (m : β) (st : Nat) :
    finish clk (advance (conc c k) len, m, st) = (conc (SM83.next c len) (k + clk / 4), m, st) := by
  simp only [finish, advance, conc, SM83.next, and_ffff]

theorem finish_ip (c : Cpu) (k ip dk clk : Nat) (m : β) (st : Nat) :
    finish clk ({ conc c k with ip := ip, cycles := k + dk }, m, st) =
      (conc { c with pc := ip % 65536 } (k + (dk + clk / 4)), m, st) := by
  simp only [finish, conc, and_ffff, Nat.add_assoc]

theorem bind_bind {ε α γ δ : Type} (x : Except ε α) (f : α → Except ε γ) (g : γ → Except ε δ) :
    (x.bind f).bind g = x.bind fun a => (f a).bind g := by
  cases x <;> rfl

theorem ok_bind {ε α γ : Type} (a : α) (g : α → Except ε γ) : (Except.ok a).bind g = g a := rfl

theorem rel_bind {α : Type} {k clk : Nat} (x : Except Bus.Panic α) {f : α → Except Bus.Panic (Regs × β × Nat)}
    {g : α → Except Bus.Panic (Cpu × β × Nat × Outcome)}
    (h : ∀ a, x = .ok a → Rel k ((f a).map (finish clk)) (g a)) : Rel k ((x.bind f).map (finish clk)) (x.bind g) := by
  cases x with
  | error e => exact rfl
  | ok a => exact h a rfl

theorem rel_ite {k clk : Nat} (b : Bool) {x x' : Except Bus.Panic (Regs × β × Nat)}
    {y y' : Except Bus.Panic (Cpu × β × Nat × Outcome)}
    (ht : Rel k (x.map (finish clk)) y) (hf : Rel k (x'.map (finish clk)) y') :
    Rel k ((if b then x else x').map (finish clk)) (if b = true then y else y') := by
  cases b
  · exact hf
  · exact ht

theorem rel_advance {c : Cpu} (hc : CWF c) (k len clk : Nat) (m : β) (out : Outcome) :
    Rel k ((Except.ok (advance (conc c k) len, m, statusOf out)).map (finish clk)) (.ok (SM83.next c len, m, clk / 4, out)) :=
  ⟨cwf_next hc len, by simp only [Except.map, finish_advance]⟩

/-- the register file is written `conc … (k + dk)` and not `{ conc c k with ip := …, cycles := … }`: matching a goal against
the latter compares `conc c k` with the goal's register file as wholes, and where they differ (a new SP) that comparison
unfolds `%` -/
theorem rel_goto {c : Cpu} (hc : CWF c) (k dk clk : Nat) {ip a cyc : Nat} (m : β) (out : Outcome)
    (ha : a < 65536) (hip : ip % 65536 = a) (hcyc : dk + clk / 4 = cyc) :
    Rel k ((Except.ok (conc { c with pc := ip } (k + dk), m, statusOf out)).map (finish clk))
      (.ok ({ c with pc := a }, m, cyc, out)) := by
  subst hip hcyc
  exact ⟨cwf_setPC hc _ ha, by simp only [Except.map]; exact congrArg Except.ok (finish_ip c k ip dk clk m _)⟩

/-- `run_op` on `op`, finished as `run_next_op` finishes it, does what `S` says the SM83 does, from every well-formed
state.  The opcode classes are stated in this form, about an `Op` constructor and not about bytes.  A structure, so that
comparing two instances never unfolds it: a class tried on the wrong `Op` fails on the constructor -/
structure OpRel (B : BusOps β) (op : Op) (len clk : Nat) (S : Cpu → β → Except Bus.Panic (Cpu × β × Nat × Outcome)) :
    Prop where
  rel : ∀ c k m, CWF c → Rel k ((runOp B op (conc c k) m len).map (finish clk)) (S c m)

variable {B : BusOps β} {op : Op} {len clk : Nat}

theorem refines_of {b0 b1 b2 : Nat} {S : Cpu → β → Except Bus.Panic (Cpu × β × Nat × Outcome)}
    (hd : Gen.decode b0 b1 b2 = (op, len, clk)) (hs : ∀ c m, SM83.step (memOf B) c m b0 b1 b2 = S c m)
    (h : OpRel B op len clk S) : Refines B b0 b1 b2 := by
  intro c k m hc
  rw [hs, stepModel_eq B b0 b1 b2 _ m op len clk hd]
  exact h.rel c k m hc

theorem OpRel.of_eq {S S' : Cpu → β → Except Bus.Panic (Cpu × β × Nat × Outcome)} (h : OpRel B op len clk S')
    (hs : ∀ c m, S c m = S' c m) : OpRel B op len clk S :=
  ⟨fun c k m hc => hs c m ▸ h.rel c k m hc⟩

/-- what `Sm83Main0` … `Sm83Main3` (one quarter of the unprefixed page each) prove for each first byte, the operand bytes
symbolic: the decoder's `Op` is computed, the class lemma about its constructor is picked (a wrong one fails on the
constructor), and the SM83 behaviour the lemma states is compared with `SM83.step` at the literal opcode by unfolding -/
def Goal (B : BusOps β) (b0 : Nat) : Prop :=
  ∀ b1 b2, b1 < 256 → b2 < 256 → b0 ≠ 0xCB → ¬ SM83.isUndefined b0 = true →
    OpRel B (Gen.decOp b0 b1 b2) (Gen.opLen b0) (Gen.opClocks b0) fun c m => SM83.step (memOf B) c m b0 b1 b2

theorem op_pure {f : Regs → Regs} {g : Cpu → Cpu}
    (hrun : ∀ r m, runOp B op r m len = .ok (advance (f r) len, m, STATUS_NORMAL))
    (hfg : ∀ c k, CWF c → f (conc c k) = conc (g c) k ∧ CWF (g c)) :
    OpRel B op len clk fun c m => .ok (SM83.next (g c) len, m, clk / 4, .normal) := by
  refine ⟨fun c k m hc => ?_⟩
  obtain ⟨e, w⟩ := hfg c k hc
  rw [hrun, e]
  exact rel_advance w k len clk m .normal

theorem op_read (hB : ByteBus B) {am : Regs → Nat} {as : Cpu → Nat} {f : Nat → Regs → Regs} {g : Nat → Cpu → Cpu}
    (hrun : ∀ r m, runOp B op r m len = (B.read m (am r)).bind fun v => .ok (advance (f v r) len, m, STATUS_NORMAL))
    (ha : ∀ c k, CWF c → am (conc c k) = as c)
    (hfg : ∀ v c k, v < 256 → CWF c → f v (conc c k) = conc (g v c) k ∧ CWF (g v c)) :
    OpRel B op len clk fun c m => (B.read m (as c)).bind fun v => .ok (SM83.next (g v c) len, m, clk / 4, .normal) := by
  refine ⟨fun c k m hc => ?_⟩
  rw [hrun, ha c k hc]
  refine rel_bind _ fun v hr => ?_
  obtain ⟨e, w⟩ := hfg v c k (hB _ _ _ hr) hc
  rw [e]
  exact rel_advance w k len clk m .normal

theorem op_write {am vm : Regs → Nat} {as vs : Cpu → Nat} {f : Regs → Regs} {g : Cpu → Cpu}
    (hrun : ∀ r m, runOp B op r m len = (B.write m (am r) (vm r)).bind fun m' => .ok (advance (f r) len, m', STATUS_NORMAL))
    (ha : ∀ c k, CWF c → am (conc c k) = as c ∧ vm (conc c k) = vs c)
    (hfg : ∀ c k, CWF c → f (conc c k) = conc (g c) k ∧ CWF (g c)) :
    OpRel B op len clk fun c m => (B.write m (as c) (vs c)).bind fun m' => .ok (SM83.next (g c) len, m', clk / 4, .normal) := by
  refine ⟨fun c k m hc => ?_⟩
  obtain ⟨e, w⟩ := hfg c k hc
  rw [hrun, (ha c k hc).1, (ha c k hc).2, e]
  exact rel_bind _ fun m' _ => rel_advance w k len clk m' .normal

end GbVerif.C05
