import GbVerif.Proofs.InterpFrame
/-!
The interpreter model on a guarded bus: `guard B g` is bus `B` with every write to an address outside `g` forbidden
(it fails).  Every `run_op` that succeeds on the guarded bus succeeds on `B` with the same result — so a statement about
"executions that perform no store to the cartridge" can be made as a statement about runs on the guarded bus (C03).
The file's name: success is monotone in the guard; only the step from `g` to no guard at all is stated.
-/
namespace GbVerif.CoreProofs
open GbVerif.Interp

variable {β : Type} (B : BusOps β)

/-- bus `B` with writes allowed only where `g` holds -/
def guard (g : Nat → Bool) : BusOps β :=
  ⟨B.read, fun m a v => if g a then B.write m a v else .error (.explicit "guarded write")⟩

@[simp] theorem guard_read (g : Nat → Bool) (m : β) (a : Nat) : (guard B g).read m a = B.read m a := rfl

theorem guard_write_iff (g : Nat → Bool) (m : β) (a v : Nat) (n : β) :
    (guard B g).write m a v = .ok n ↔ (g a = true ∧ B.write m a v = .ok n) := by
  unfold guard
  simp only []
  split
  · simp [*]
  · simp [*]

theorem pop_guard (g : Nat → Bool) (r : Regs) (m : β) : pop (guard B g) r m = pop B r m := rfl

theorem push_guard (g : Nat → Bool) {v : Nat} {r : Regs} {m : β} {p : Regs × β} (h : push (guard B g) v r m = .ok p) :
    push B v r m = .ok p := by
  unfold push at h ⊢
  obtain ⟨m1, h1, h⟩ := bind_ok_elim h
  obtain ⟨m2, h2, h⟩ := bind_ok_elim h
  rw [guard_write_iff] at h1 h2
  simp only [bind, Except.bind, h1.2, h2.2]
  exact h

theorem rmwHL_guard (g : Nat → Bool) {r : Regs} {m : β} {f : Nat → Regs → Nat × Regs} {p : Regs × β}
    (h : rmwHL (guard B g) r m f = .ok p) : rmwHL B r m f = .ok p := by
  unfold rmwHL at h ⊢
  obtain ⟨v, h1, h⟩ := bind_ok_elim h
  obtain ⟨m1, h2, h⟩ := bind_ok_elim h
  rw [guard_write_iff] at h2
  rw [guard_read] at h1
  simp only [bind, Except.bind, h1, h2.2]
  exact h

/-- as equations between propositions, for rewriting a hypothesis: a successful guarded push / read-modify-write is
also the unguarded one -/
theorem push_guard_eq (g : Nat → Bool) {v : Nat} {r : Regs} {m : β} {p : Regs × β} :
    (push (guard B g) v r m = .ok p) = (push (guard B g) v r m = .ok p ∧ push B v r m = .ok p) :=
  propext ⟨fun h => ⟨h, push_guard B g h⟩, fun h => h.1⟩

theorem rmwHL_guard_eq (g : Nat → Bool) {r : Regs} {m : β} {f : Nat → Regs → Nat × Regs} {p : Regs × β} :
    (rmwHL (guard B g) r m f = .ok p) = (rmwHL (guard B g) r m f = .ok p ∧ rmwHL B r m f = .ok p) :=
  propext ⟨fun h => ⟨h, rmwHL_guard B g h⟩, fun h => h.1⟩

/-- refinement rules: `x` returns only what `x'` returns -/
theorem Returns.bind_eq {ε α γ : Type} {x x' : Except ε α} {f f' : α → Except ε γ}
    (hx : Returns x (fun a => x' = .ok a)) (hf : ∀ a, x = .ok a → Returns (f a) (fun b => f' a = .ok b)) :
    Returns (x >>= f) (fun b => (x' >>= f') = .ok b) :=
  Returns.bind fun a ha b hb => by rw [hx a ha]; exact hf a ha b hb

theorem Returns.ite_eq {ε α : Type} {c : Prop} [Decidable c] {x y x' y' : Except ε α}
    (hx : Returns x (fun a => x' = .ok a)) (hy : Returns y (fun a => y' = .ok a)) :
    Returns (if c then x else y) (fun a => (if c then x' else y') = .ok a) := by
  split <;> assumption

theorem runOp_guard (g : Nat → Bool) (op : Op) (r : Regs) (m : β) (len : Nat) (x : Regs × β × Nat)
    (h : runOp (guard B g) op r m len = .ok x) : runOp B op r m len = .ok x := by
  suffices Returns (runOp (guard B g) op r m len) (fun x => runOp B op r m len = .ok x) from this x h
  cases op
  all_goals dsimp only [runOp]
  all_goals with_reducible repeat' (first
    | apply Returns.ite_eq | exact Returns.ok rfl | exact Returns.pure rfl | exact Returns.error
    | (apply Returns.bind_eq _ (fun _ _ => ?_)))
  -- what is left: each bus access, push and read-modify-write on the guarded bus is one on `B`
  all_goals first
    | exact fun _ h => ((guard_write_iff B g _ _ _ _).1 h).2
    | exact fun _ h => push_guard B g h
    | exact fun _ h => rmwHL_guard B g h
    | exact fun _ h => h

end GbVerif.CoreProofs
