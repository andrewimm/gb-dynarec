import GbVerif.Proofs.SysTotal
import GbVerif.Proofs.CoreStep
import GbVerif.Proofs.InterpFrame
import GbVerif.Proofs.LcdSched
/-!
Two things.  First the step theorems `update_step` / `updateBlock_step`, for any device function: a property `Q b t` of
the bus after `t` delivered clocks that every bus write and the IF acknowledge keep, and that the device function takes
from `t` to `t + k`, holds after every step of the machine (Machine.lean and SerialMono.lean use them as well).  Then
their first use, the LCD inside the whole machine (`Sys.dev`): its line/mode machine and its count of completed frames
are driven by nothing but the clocks the core hands to the devices.  Whatever the program does — any instruction, any
register write, OAM DMA, interrupt dispatch, HALT — after `t` delivered clocks the LCD sits at `sched t` and has
completed `t / 70224` frames.  This discharges the assumption of `C09.run_frame_terminates_partial` for the real device function.
-/
namespace GbVerif.SysProofs
open GbVerif.Core GbVerif.Interp GbVerif.CoreProofs GbVerif.LcdSpec GbVerif.LcdProofs

/-- the timing side of the LCD registers: nothing but `VideoState::run_clock_cycles` assigns these -/
def vtV (v : Bus.VideoRegs) : Nat × Nat × Nat × Nat := (v.mode, v.dots, v.line, v.frames)
def vt (b : Bus.State) : Nat × Nat × Nat × Nat := vtV b.io.video

/-- the LCD is on schedule after `t` clocks and has counted the frames completed in them -/
def LcdInv (b : Bus.State) (t : Nat) : Prop :=
  t % 4 = 0 ∧ pos (Sys.lcdOf b.io.video) = sched t ∧ b.io.video.frames = t / 70224

theorem LcdInv_of_vt {b b' : Bus.State} {t : Nat} (h : vt b' = vt b) (hi : LcdInv b t) : LcdInv b' t := by
  unfold vt vtV at h
  simp only [Prod.mk.injEq] at h
  obtain ⟨h1, h2, h3, h4⟩ := h
  obtain ⟨i1, i2, i3⟩ := hi
  refine ⟨i1, ?_, by rw [h4]; exact i3⟩
  rw [← i2]
  simp only [pos, Sys.lcdOf, h1, h2, h3]

/-! ### register writes and the CPU leave the timing side alone -/

theorem setByte_vt (io : Bus.Io) (a v : Nat) : vtV (io.setByte a v).video = vtV io.video := by
  unfold Bus.Io.setByte
  split <;> rfl

/-- a successful array write followed by a field update that leaves `io` alone -/
macro "wrb" h:ident : tactic => `(tactic| (
  obtain ⟨x, _, $h:ident⟩ := bind_ok_elim $h:ident
  injection $h:ident with $h:ident; subst $h:ident; rfl))

theorem write_vt {s s' : Bus.State} {a v : Nat} (h : Bus.write s a v = .ok s') : vt s' = vt s := by
  unfold vt
  rcases (BusProofs.write_effect h).io with e | e | e <;> rw [e]
  exact setByte_vt _ _ _

/-! ### invariants of the bus through a step of the machine

`Q b t`: a property of the bus after `t` delivered clocks.  If every write and the IF acknowledge keep it at the same
`t`, and the device function takes it from `t` to `t + k`, then every step keeps it at the core's count of delivered
clocks. -/

section step
variable {dev : Dev} {Q : Bus.State → Nat → Prop}
  (hw : ∀ {t : Nat} {s s' : Bus.State} {a v : Nat}, Bus.write s a v = .ok s' → Q s t → Q s' t)
  (hifl : ∀ (t : Nat) (b : Bus.State) (x : Nat), Q b t → Q { b with io := { b.io with ifl := x } } t)
  (hdev : ∀ {b b' : Bus.State} {k t : Nat}, k % 4 = 0 → dev b k = .ok b' → Q b t → Q b' (t + k))
include hw hifl hdev

theorem update_step {c c' : State} (h : update dev c = .ok c') (hq : Q c.bus c.delivered) :
    Q c'.bus c'.delivered := by
  by_cases hr : c.run = .Run
  · rw [update_run dev c hr] at h
    obtain ⟨r, b, st, e, bus, h1, h2, h3⟩ := runInterp_shape h
    have hq' : Q bus (c.delivered + r.cycles * 4) := hdev (by omega) h2 (runNextOp_inv hw h1 hq)
    rw [handleInterrupt_delivered h3]
    exact handleInterrupt_inv hw (hifl _) h3 hq'
  · obtain ⟨bus, h2, h3⟩ := update_halted_shape hr h
    have hq' : Q bus (c.delivered + 4) := hdev (by decide) h2 hq
    rw [handleInterrupt_delivered h3]
    exact handleInterrupt_inv hw (hifl _) h3 hq'

theorem updateBlock_step {c c' : State} (h : updateBlock dev c = .ok c') (hq : Q c.bus c.delivered) :
    Q c'.bus c'.delivered := by
  unfold updateBlock at h
  split at h
  · obtain ⟨r, b, st, bus, h1, h2, h3⟩ := runCodeBlockInterp_shape h
    have hq' : Q bus (c.delivered + r.cycles * 4) :=
      hdev (by omega) h2 (runCodeBlockAux_inv hw _ _ h1 hq)
    rw [handleInterrupt_delivered h3]
    exact handleInterrupt_inv hw (hifl _) h3 hq'
  · exact update_step (Q := Q) hw hifl hdev h hq

end step

/-! ### the devices advance it by exactly the clocks they are given -/

/-- the frame counter in closed form: VBlank is entered by the tick that completes a multiple of 17556 ticks -/
theorem vblanks_closed (n : Nat) : ∀ (s : Lcd.State) (k : Nat), pos s = sched (4 * k) →
    Sys.vblanks n s = (k + n) / 17556 - k / 17556 := by
  induction n with
  | zero => intro s k _; simp [Sys.vblanks]
  | succ n ih =>
    intro s k h
    rw [Sys.vblanks, ih _ (k + 1) (tick_closed s k h), tick_vblank_iff s k h]
    by_cases hk : k % 17556 = 17555
    · simp only [hk, beq_self_eq_true, if_true]; omega
    · have : (k % 17556 == 17555) = false := by simpa using hk
      simp only [this, Bool.false_eq_true, if_false]; omega

theorem videoRun_inv {v v' : Bus.VideoRegs} {k t f : Nat} (hk : k % 4 = 0) (h : Sys.videoRun v k = .ok (v', f))
    (ht : t % 4 = 0) (hp : pos (Sys.lcdOf v) = sched t) (hf : v.frames = t / 70224) :
    pos (Sys.lcdOf v') = sched (t + k) ∧ v'.frames = (t + k) / 70224 := by
  rw [videoRun_eq v hk] at h
  simp only [Except.ok.injEq, Prod.mk.injEq] at h
  obtain ⟨h1, _⟩ := h
  subst h1
  have hp' : pos (Sys.lcdOf v) = sched (4 * (t / 4)) := by rw [hp]; congr 1; omega
  have hc := run_closed (k / 4) (Sys.lcdOf v) (t / 4) hp'
  constructor
  · have : pos (Sys.lcdOf { v with mode := (Lcd.run (k / 4) (Sys.lcdOf v)).1.mode.toNat, dots := (Lcd.run (k / 4) (Sys.lcdOf v)).1.dots,
                                    line := (Lcd.run (k / 4) (Sys.lcdOf v)).1.line,
                                    frames := v.frames + Sys.vblanks (k / 4) (Sys.lcdOf v) }) = pos (Lcd.run (k / 4) (Sys.lcdOf v)).1 := by
      simp only [pos, Sys.lcdOf, modeOfNat_toNat]
    rw [this, hc]; congr 1; omega
  · show v.frames + Sys.vblanks (k / 4) (Sys.lcdOf v) = (t + k) / 70224
    rw [vblanks_closed _ _ _ hp', hf]; omega

theorem ioRun_inv {b : Bus.State} {io' : Bus.Io} {k t : Nat} (hk : k % 4 = 0) (h : Sys.ioRun b.io k = .ok io') (hi : LcdInv b t) :
    LcdInv { b with io := io' } (t + k) := by
  obtain ⟨v, vf, x, hv, rfl⟩ := ioRun_elim h
  obtain ⟨i1, i2, i3⟩ := hi
  have := videoRun_inv hk hv i1 i2 i3
  exact ⟨by omega, this.1, this.2⟩

theorem dmaCopyByte_vt {s s' : Bus.State} {source off : Nat} (h : Bus.dmaCopyByte s source off = .ok s') : vt s' = vt s := by
  unfold Bus.dmaCopyByte at h
  obtain ⟨v, _, h⟩ := bind_ok_elim h
  exact write_vt h

theorem dmaLoop_inv (source : Nat) : ∀ (n : Nat) (s : Bus.State) (off : Nat) (s' : Bus.State) (off' t : Nat),
    Sys.dmaLoop s source off n = .ok (s', off') → LcdInv s t → LcdInv s' (t + 4 * n) := by
  intro n
  induction n with
  | zero => intro s off s' off' t h hi; injection h with h; injection h with h1 h2; subst h1; exact hi
  | succ n ih =>
    intro s off s' off' t h hi
    rw [Sys.dmaLoop] at h
    obtain ⟨s1, h1, h⟩ := bind_ok_elim h
    obtain ⟨io, h2, h⟩ := bind_ok_elim h
    have hi1 : LcdInv s1 t := LcdInv_of_vt (dmaCopyByte_vt h1) hi
    have hi2 := ioRun_inv (k := 4) (by decide) h2 hi1
    have := ih _ _ _ _ _ h hi2
    have e : t + 4 + 4 * n = t + 4 * (n + 1) := by omega
    rw [← e]; exact this

/-- **the device function keeps the LCD on schedule**: `k` clocks (a whole number of machine cycles) later the LCD is
`k` clocks further and has counted the frames completed in them, with or without an OAM DMA in progress -/
theorem dev_inv {b b' : Bus.State} {k t : Nat} (hk : k % 4 = 0) (h : Sys.dev b k = .ok b') (hi : LcdInv b t) :
    LcdInv b' (t + k) := by
  rcases dev_elim h with ⟨_, io, h1, rfl⟩ | ⟨source, off, s1, off', io, _, h1, h2, rfl⟩
  · exact ioRun_inv hk h1 hi
  · obtain ⟨hn, hn4⟩ := dma_clocks off hk
    have hi1 : LcdInv { s1 with dma := if off' < 0xa0 then some (source, off') else none } (t + 4 * min (0xa0 - off) (k / 4)) :=
      LcdInv_of_vt (b := s1) rfl (dmaLoop_inv source _ _ _ _ _ t h1 hi)
    have := ioRun_inv hn4 h2 hi1
    rw [show t + 4 * min (0xa0 - off) (k / 4) + (k - 4 * min (0xa0 - off) (k / 4)) = t + k by omega] at this
    exact this

def SysInv (c : State) : Prop := LcdInv c.bus c.delivered

theorem update_inv {c c' : State} (h : update Sys.dev c = .ok c') (hi : SysInv c) : SysInv c' :=
  update_step (Q := LcdInv) (fun hw => LcdInv_of_vt (write_vt hw)) (fun _ _ _ hi => hi)
    dev_inv h hi

theorem updateBlock_inv {c c' : State} (h : updateBlock Sys.dev c = .ok c') (hi : SysInv c) : SysInv c' :=
  updateBlock_step (Q := LcdInv) (fun hw => LcdInv_of_vt (write_vt hw)) (fun _ _ _ hi => hi)
    dev_inv h hi

/-- a freshly created machine (`MemoryAreas::with_rom_file`, `VideoState::new`) satisfies the invariant -/
theorem sysInv_create (kind : Cart.Kind) (romBanks ramBytes : Nat) (rom : Nat → Nat) (regs : Regs) :
    SysInv { regs := regs, bus := Bus.create kind romBanks ramBytes rom } := by
  refine ⟨rfl, ?_, ?_⟩
  · show pos (Sys.lcdOf {}) = sched 0
    decide
  · show (0 : Nat) = 0 / 70224
    rfl

end GbVerif.SysProofs
