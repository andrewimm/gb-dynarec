import GbVerif.Model.JitIp
import GbVerif.Proofs.X86Paths
import GbVerif.Proofs.X86Stack
/-!
Soundness of the PC bookkeeping analysis (`JitIp.trIp`) for executions of the x86 model: r13 = start value + advance,
and every slot the symbolic stack marks as "r13 saved at advance x" holds start value + x.
-/
namespace GbVerif.X86
open GbVerif.JitCycles GbVerif.JitPaths GbVerif.JitIp
variable {β : Type}

/-- the symbolic stack describes the top of the host stack: a slot tagged 13 holds r13 as it was at the recorded advance -/
def Slots (base : Nat) (sym : List (Nat × Nat)) (st : List W) : Prop :=
  sym.length ≤ st.length ∧ ∀ (k x : Nat), sym[k]? = some (13, x) → ∃ w : W, st[k]? = some w ∧ w.toNat = (base + x) % 2 ^ 64

theorem Slots.push {base : Nat} {sym : List (Nat × Nat)} {st : List W} {t : Nat × Nat} {w : W} (h : Slots base sym st)
    (ht : ∀ x, t = (13, x) → w.toNat = (base + x) % 2 ^ 64) : Slots base (t :: sym) (w :: st) :=
  ⟨Nat.succ_le_succ h.1, fun k x hk => by
    cases k with
    | zero => rw [List.getElem?_cons_zero] at hk; exact ⟨w, rfl, ht x (Option.some.inj hk)⟩
    | succ k => rw [List.getElem?_cons_succ] at hk ⊢; exact h.2 k x hk⟩

theorem Slots.pop {base : Nat} {sym : List (Nat × Nat)} {st : List W} {t : Nat × Nat} {w : W}
    (h : Slots base (t :: sym) (w :: st)) : Slots base sym st :=
  ⟨Nat.le_of_succ_le_succ h.1, fun k x hk => h.2 (k + 1) x hk⟩

theorem Slots.head {base x : Nat} {sym : List (Nat × Nat)} {st : List W} {w : W}
    (h : Slots base ((13, x) :: sym) (w :: st)) : w.toNat = (base + x) % 2 ^ 64 := by
  obtain ⟨w', hw, hv⟩ := h.2 0 x rfl
  rw [List.getElem?_cons_zero] at hw
  rw [Option.some.inj hw]; exact hv

/-- a store into a slot that does not hold r13 -/
theorem Slots.set {base k r' x : Nat} {sym : List (Nat × Nat)} {st : List W} (h : Slots base sym st)
    (hk : sym[k]? = some (r', x)) (hr : r' ≠ 13) (w : W) : Slots base sym (st.set k w) :=
  ⟨by rw [List.length_set]; exact h.1, fun j y hj => by
    have hne : k ≠ j := fun e => by subst e; rw [hk] at hj; exact hr (Prod.mk.inj (Option.some.inj hj)).1
    rw [List.getElem?_set_ne hne]; exact h.2 j y hj⟩

/-- the relation carried along a run; `base` = r13 at the start of the template -/
def IpRel (base : Nat) (a : IpSt) (s : St β) : Prop :=
  (get s 13).toNat = (base + a.1) % 2 ^ 64 ∧ Slots base a.2 s.stack

theorem dest_ne_13 {ins : Instr} (hw : writesR13Otherwise ins = false) (hadd : ∀ n, ins ≠ .aluI .add .q 13 [n] true)
    (hpop : ∀ r, ins ≠ .pop r) : destReg ins ≠ some 13 := by
  unfold writesR13Otherwise at hw
  split at hw
  · rename_i n; exact absurd rfl (hadd n)
  · rename_i r; exact absurd rfl (hpop r)
  · simpa using hw

theorem ip_carries (B : Interp.BusOps β) (base : Nat) : Carries B trIp (IpRel (β := β) base) where
  pc := fun _ _ _ h => h
  step := by
    intro ins a a' s s1 len hj1 hj2 htr hR hsz hstep
    obtain ⟨hr13, hS⟩ := hR
    have keep : destReg ins ≠ some 13 → (get s1 13).toNat = (base + a.1) % 2 ^ 64 :=
      fun hd => by rw [step_reg B hstep hd (by decide)]; exact hr13
    unfold trIp at htr
    by_cases hw : writesR13Otherwise ins = true
    · rw [if_pos hw] at htr; cases htr
    · rw [if_neg hw] at htr
      split at htr
      · -- add r13, n
        rename_i n
        split at htr
        · cases htr
        · cases htr
          refine ⟨?_, by rw [(step_effect B hstep).stack rfl]; exact hS⟩
          show (get s1 13).toNat = (base + (a.1 + n)) % 2 ^ 64
          rw [step_add_q B s s1 13 n len (by decide) (by omega) hsz hstep, hr13, Nat.mod_add_mod, Nat.add_assoc]
      · -- push r
        rename_i r
        cases htr
        refine ⟨keep (fun e => by cases e), ?_⟩
        show Slots base ((r, a.1) :: a.2) s1.stack
        rw [push_stack B hstep]
        exact hS.push fun x e => by cases e; exact hr13
      · -- pushf
        cases htr
        refine ⟨keep (fun e => by cases e), ?_⟩
        show Slots base ((100, 0) :: a.2) s1.stack
        rw [pushf_stack B hstep]
        exact hS.push fun x e => absurd (Prod.mk.inj e).1 (by decide)
      · -- pop r: r13 only takes back what `push r13` saved
        rename_i r
        obtain ⟨w, hs, hget⟩ := pop_stack B hstep
        split at htr
        · rename_i r' x rest hstk
          rw [hstk, hs] at hS
          split at htr
          · rename_i hr
            split at htr
            · rename_i hr2
              cases htr
              cases eq_of_beq hr; cases eq_of_beq hr2
              exact ⟨by rw [hget (by omega)]; exact hS.head, hS.pop⟩
            · cases htr
          · rename_i hr
            cases htr
            exact ⟨keep (fun e => hr (beq_iff_eq.mpr (Option.some.inj e))), hS.pop⟩
        · cases htr
      · -- popf
        obtain ⟨w, hs⟩ := popf_stack B hstep
        split at htr
        · rename_i t rest hstk
          cases htr
          rw [hstk, hs] at hS
          exact ⟨keep (fun e => by cases e), hS.pop⟩
        · cases htr
      · -- store to [rsp+d]
        rename_i sz b d src
        split at htr
        · cases htr
        · rename_i hb
          have hb' : b = 4 := by simpa using hb
          subst hb'
          split at htr
          · rename_i r' x hslot
            split at htr
            · cases htr
            · rename_i hr'
              cases htr
              obtain ⟨w, _, hst⟩ := store_stack B hstep
              exact ⟨keep (fun e => by cases e), by rw [hst]; exact hS.set hslot (fun e => hr' (beq_iff_eq.mpr e)) w⟩
          · cases htr
      · -- store8 to [rsp+d]
        rename_i b d src
        split at htr
        · cases htr
        · rename_i hb
          have hb' : b = 4 := by simpa using hb
          subst hb'
          split at htr
          · rename_i r' x hslot
            split at htr
            · cases htr
            · rename_i hr'
              cases htr
              obtain ⟨w, _, hst⟩ := store8_stack B hstep
              exact ⟨keep (fun e => by cases e), by rw [hst]; exact hS.set hslot (fun e => hr' (beq_iff_eq.mpr e)) w⟩
          · cases htr
      · rename_i h1 h2 h3 h4 h5 h6 h7
        cases htr
        exact ⟨keep (dest_ne_13 ((Bool.not_eq_true _).mp hw) h1 h4),
          by rw [step_stack B s s1 _ _ hstep h2 h4 h3 h5 h6 h7]; exact hS⟩

/-- **what `jitIp` means**: every complete run of the template adds one of the advances of the analysis to r13 -/
theorem jitIp_sound (B : Interp.BusOps β) (tokens : List Nat) (code : List (Nat × Instr)) (C : List Nat)
    (hdec : decodeCode tokens = some code) (hok : codeOk code (bytesOf tokens) = true) (hC : jitIp tokens = some C)
    (fr : Nat) (s s' : St β) (hsz : s.r.size = 16) (hpc : s.pc = offAt code (bytesOf tokens) 0)
    (hrun : run B code (bytesOf tokens) fr s = .ok s') :
    ∃ l ∈ C, (get s' 13).toNat = ((get s 13).toNat + l) % 2 ^ 64 := by
  have hR : IpRel (β := β) (get s 13).toNat (0, []) s :=
    ⟨by show _ = ((get s 13).toNat + 0) % 2 ^ 64; rw [Nat.add_zero, Nat.mod_eq_of_lt (get s 13).isLt],
     Nat.zero_le _, fun k x hk => by simp at hk⟩
  obtain ⟨a', n, hR', hf, hn⟩ := analyse_sound B trIp (0, []) (fun a => some a.1) _ (ip_carries B (get s 13).toNat)
    tokens code C hdec hok hC fr s s' hsz hpc hR hrun
  cases hf
  exact ⟨a'.1, hn, hR'.1⟩

end GbVerif.X86
