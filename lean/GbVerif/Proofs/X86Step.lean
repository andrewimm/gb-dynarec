import GbVerif.Proofs.X86Frame
/-!
One step of the x86 model.  `step_effect` walks the instructions once: a step keeps the size of the register file, changes
only the registers the instruction writes (`X86Wf.writes`), leaves the program counter at the next instruction unless it is
a jump, touches the bus only if it is `call rax` and the host stack only if it is a push, a pop or a store to `[rsp+d]`.
The frame lemmas the analyses use are its readings.

The rest of the file is the value a step leaves in its destination, for the instructions whose arithmetic the
bookkeeping analyses and the simulation proofs follow: a 64-bit ALU operation with an immediate (`immVal`, `step_aluI_q`;
`add` / `sub` of a literal and `and r, 0xffff` from it), 16-bit `inc` / `dec`, a 32-bit shift or rotate by a literal count.
-/
namespace GbVerif.X86
open GbVerif.JitCycles GbVerif.X86Wf
variable {β : Type}

theorem stackWrite_ok {s s' : St β} {off n v : Nat} (h : stackWrite s off n v = .ok s') :
    ∃ w, off / 8 < s.stack.length ∧ s' = { s with stack := s.stack.set (off / 8) w } := by
  unfold stackWrite at h
  simp only [] at h
  split at h
  · cases h
  · split at h
    · rename_i w hw
      cases h
      obtain ⟨hk, -⟩ := List.getElem?_eq_some_iff.mp hw
      exact ⟨_, hk, rfl⟩
    · cases h

theorem stack_access {s : St β} {off n : Nat} (hn : off % 8 + n ≤ 8) (hk : off / 8 < s.stack.length) :
    (∃ v, stackRead s off n = .ok v) ∧ ∀ v, ∃ s', stackWrite s off n v = .ok s' := by
  unfold stackRead stackWrite
  simp only [if_neg (Nat.not_lt.mpr hn), List.getElem?_eq_getElem hk]
  exact ⟨⟨_, rfl⟩, fun v => ⟨_, rfl⟩⟩

def touchesStack : Instr → Bool
  | .push _ | .pop _ | .pushf | .popf | .store _ _ _ _ | .store8 _ _ _ => true
  | _ => false

structure StepEffect (ins : Instr) (len : Nat) (s s' : St β) : Prop where
  size : s'.r.size = s.r.size
  frame : ∀ j, j ∉ writes ins → get s' j = get s j
  pc : (∀ c rel, ins ≠ .jcc c rel) → (∀ rel, ins ≠ .jmp rel) → s'.pc = s.pc + len
  bus : ins ≠ .callRax → s'.bus = s.bus
  stack : touchesStack ins = false → s'.stack = s.stack

theorem RegUpd.step {ins : Instr} {len : Nat} {s s' : St β} (h : RegUpd (writes ins) { s with pc := s.pc + len } s') :
    StepEffect ins len s s' :=
  ⟨h.size, h.frame, fun _ _ => h.pc, fun _ => h.bus, fun _ => h.stack⟩

theorem RegUpd.step_stack {ins : Instr} {len : Nat} {s s' : St β} (ht : touchesStack ins = true)
    (h : RegUpd (writes ins) { s with pc := s.pc + len } { s' with stack := s.stack }) : StepEffect ins len s s' :=
  ⟨h.size, h.frame, fun _ _ => h.pc, fun _ => h.bus, fun hf => by rw [ht] at hf; cases hf⟩

theorem step_effect (B : Interp.BusOps β) {s s' : St β} {ins : Instr} {len : Nat} (h : step B s ins len = .ok s') :
    StepEffect ins len s s' := by
  cases ins
  case callRax =>
    obtain ⟨x, _, hu⟩ := callBus_ok B h
    exact ⟨hu.size, hu.frame, fun _ _ => hu.pc, fun hc => absurd rfl hc, fun _ => hu.stack⟩
  case alu8 | alu8i => cases h; exact RegUpd.step ((regUpd_ite _ (regUpd_set8 _ _ _)).fl _)
  case aluI | alu => cases h; exact RegUpd.step ((regUpd_ite _ (regUpd_setSz _ _ _ _)).fl _)
  case test8i | bt => cases h; exact RegUpd.step ((RegUpd.refl _ _).fl _)
  case incdec8 | sh8 => cases h; exact RegUpd.step ((regUpd_set8 _ _ _).fl _)
  case incdec16 | sh32 => cases h; exact RegUpd.step ((regUpd_setSz _ _ _ _).fl _)
  case not8 | mov8 | mov8i | sete => cases h; exact RegUpd.step (regUpd_set8 _ _ _)
  case mov | movi16 => cases h; exact RegUpd.step (regUpd_setSz _ _ _ _)
  case movabs => cases h; exact RegUpd.step (regUpd_set _ _ _)
  case nop => cases h; exact RegUpd.step (RegUpd.refl _ _)
  case push | pushf => cases h; exact RegUpd.step_stack rfl (RegUpd.refl _ _)
  case load sz d base disp =>
    simp only [step] at h
    split at h
    · cases hr : stackRead { s with pc := s.pc + len } disp (bitsOf sz / 8) with
      | error e => rw [hr] at h; cases h
      | ok v => rw [hr] at h; cases h; exact RegUpd.step (regUpd_setSz _ _ _ _)
    · cases h
  case store | store8 =>
    simp only [step] at h
    split at h
    · obtain ⟨w, _, rfl⟩ := stackWrite_ok h; exact RegUpd.step_stack rfl (RegUpd.refl _ _)
    · cases h
  case pop =>
    simp only [step] at h
    split at h
    · cases h; exact RegUpd.step_stack rfl (regUpd_set _ _ _)
    · cases h
  case popf =>
    simp only [step] at h
    split at h
    · cases h; exact RegUpd.step_stack rfl ((RegUpd.refl _ _).fl _)
    · cases h
  case jcc c rel =>
    cases h
    exact ⟨by split <;> rfl, fun _ _ => by split <;> rfl, fun hc _ => absurd rfl (hc c rel), fun _ => by split <;> rfl,
      fun _ => by split <;> rfl⟩
  case jmp rel => cases h; exact ⟨rfl, fun _ _ => rfl, fun _ hj => absurd rfl (hj rel), fun _ => rfl, fun _ => rfl⟩
  case jmpReg | ret => cases h

theorem writes_eq (ins : Instr) (hc : ins ≠ .callRax) : writes ins = (destReg ins).toList := by
  cases ins <;> try rfl
  case callRax => exact absurd rfl hc
  all_goals (simp only [writes, destReg]; split <;> rfl)

theorem not_mem_writes {ins : Instr} {j : Nat} (hd : destReg ins ≠ some j) (hj : j ∉ writes .callRax) : j ∉ writes ins := by
  by_cases hc : ins = .callRax
  · rw [hc]; exact hj
  · rw [writes_eq ins hc, Option.mem_toList]; exact fun e => hd e

theorem step_reg (B : Interp.BusOps β) {s s' : St β} {ins : Instr} {len j : Nat} (h : step B s ins len = .ok s')
    (hd : destReg ins ≠ some j) (hj : j ∉ writes .callRax) : get s' j = get s j :=
  (step_effect B h).frame j (not_mem_writes hd hj)

/-- **frame**: an instruction other than `call rax` that completes leaves every register except its destination alone -/
theorem step_frame (B : Interp.BusOps β) (s s' : St β) (ins : Instr) (len j : Nat) (h : step B s ins len = .ok s')
    (hc : ins ≠ .callRax) (hd : destReg ins ≠ some j) : get s' j = get s j :=
  (step_effect B h).frame j (by rw [writes_eq ins hc, Option.mem_toList]; exact fun e => hd e)

theorem step_size_pc (B : Interp.BusOps β) (s s' : St β) (ins : Instr) (len : Nat) (h : step B s ins len = .ok s') :
    s'.r.size = s.r.size ∧ ((∀ c rel, ins ≠ .jcc c rel) → (∀ rel, ins ≠ .jmp rel) → s'.pc = s.pc + len) :=
  ⟨(step_effect B h).size, (step_effect B h).pc⟩

theorem toNat_get_set (s : St β) (i v : Nat) (h : i < s.r.size) : (get (set s i (BitVec.ofNat 64 v)) i).toNat = v % 2 ^ 64 := by
  rw [get_set_eq _ _ _ h, BitVec.toNat_ofNat]

/-- the immediate operand of `aluI` as `step` reads it: imm8 is sign-extended from 8 bits, a 64-bit imm32 from 32 -/
def immVal (sz : Size) (v : Nat) (sx8 : Bool) : Nat :=
  if sx8 then (if v ≥ 128 then 2 ^ bitsOf sz - 256 + v else v) else (if sz == .q && v ≥ 2 ^ 31 then 2 ^ 64 - 2 ^ 32 + v else v)

theorem immVal_small (sz : Size) {n : Nat} (hn : n < 128) : immVal sz n true = n := by
  unfold immVal; rw [if_pos rfl, if_neg (by omega)]

theorem tokVal_small (t : St β) (n : Nat) (h : n < 256) : tokVal t n = n := by
  unfold tokVal
  have h1 : (n == 256) = false := by simp; omega
  have h2 : (n == 257) = false := by simp; omega
  simp only [h1, h2, Bool.false_eq_true, if_false]
  omega

theorem immLE_single (t : St β) (n : Nat) (h : n < 256) : immLE t [n] = n := by
  unfold immLE; simp only [List.foldr, tokVal_small t n h, Nat.mul_zero, Nat.add_zero]

theorem step_aluI_q (B : Interp.BusOps β) (s s' : St β) (op : AluOp) (r : Nat) (imm : List Nat) (sx : Bool) (len : Nat)
    (hop : (op == .cmp) = false) (hr : r < s.r.size) (h : step B s (.aluI op .q r imm sx) len = .ok s') :
    (get s' r).toNat = (aluOp op 64 (get s r).toNat (immVal .q (immLE s imm) sx % 2 ^ 64) s.fl).1 % 2 ^ 64 := by
  simp only [step, hop, Bool.false_eq_true, if_false] at h
  cases h
  have e : getSz ({ s with pc := s.pc + len } : St β) .q r = (get s r).toNat := Nat.mod_eq_of_lt (get s r).isLt
  rw [e]
  exact toNat_get_set _ _ _ hr

theorem step_add_q (B : Interp.BusOps β) (s s' : St β) (r n len : Nat) (hr16 : r < 16) (hn : n < 128) (hs : s.r.size = 16)
    (h : step B s (.aluI .add .q r [n] true) len = .ok s') : (get s' r).toNat = ((get s r).toNat + n) % 2 ^ 64 := by
  rw [step_aluI_q B s s' .add r [n] true len rfl (by omega) h, immLE_single s n (by omega), immVal_small .q hn]
  show ((get s r).toNat + n % 2 ^ 64 + 0) % 2 ^ 64 % 2 ^ 64 = _
  rw [Nat.mod_mod, Nat.add_zero, Nat.mod_eq_of_lt (Nat.lt_trans hn (by decide))]

theorem step_sub_q (B : Interp.BusOps β) (s s' : St β) (r n len : Nat) (hr16 : r < 16) (hn : n < 128) (hs : s.r.size = 16)
    (h : step B s (.aluI .sub .q r [n] true) len = .ok s') : (get s' r).toNat = ((get s r).toNat + 2 ^ 64 - n) % 2 ^ 64 := by
  rw [step_aluI_q B s s' .sub r [n] true len rfl (by omega) h, immLE_single s n (by omega), immVal_small .q hn]
  show ((get s r).toNat + 2 ^ 64 + 2 ^ 64 - n % 2 ^ 64 - 0) % 2 ^ 64 % 2 ^ 64 = _
  have hn64 : n < 2 ^ 64 := Nat.lt_trans hn (by decide)
  rw [Nat.mod_mod, Nat.sub_zero, Nat.mod_eq_of_lt hn64,
    Nat.sub_add_comm (Nat.le_trans (Nat.le_of_lt hn64) (Nat.le_add_left _ _)), Nat.add_mod_right]

theorem step_mask_q (B : Interp.BusOps β) (s s' : St β) (r len : Nat) (hr16 : r < 16) (hs : s.r.size = 16)
    (h : step B s (.aluI .and .q r [255, 255, 0, 0] false) len = .ok s') : (get s' r).toNat = (get s r).toNat % 65536 := by
  rw [step_aluI_q B s s' .and r _ false len rfl (by omega) h]
  have himm : immLE s [255, 255, 0, 0] = 65535 := by
    unfold immLE
    simp only [List.foldr, tokVal_small s 255 (by omega), tokVal_small s 0 (by omega)]
  rw [himm]
  show ((get s r).toNat &&& 2 ^ 16 - 1) % 2 ^ 64 = _
  rw [Nat.and_two_pow_sub_one_eq_mod]
  omega

theorem low16_splice (x v : Nat) : (x - x % 65536 + v % 65536) % 2 ^ 64 % 65536 = v % 65536 := by
  have hx : x - x % 65536 = 65536 * (x / 65536) := by omega
  rw [Nat.mod_mod_of_dvd _ (by decide : 65536 ∣ 2 ^ 64), hx, Nat.mul_add_mod, Nat.mod_mod]

theorem step_incdec16 (B : Interp.BusOps β) (s s' : St β) (dec : Bool) (r len : Nat) (hr16 : r < 16) (hs : s.r.size = 16)
    (h : step B s (.incdec16 dec r) len = .ok s') :
    (get s' r).toNat % 65536 = ((get s r).toNat + (if dec then 65535 else 1)) % 65536 := by
  simp only [step] at h
  cases h
  refine (congrArg (· % 65536) (toNat_get_set ({ s with pc := s.pc + len } : St β) r _ (by show r < s.r.size; omega))).trans ?_
  cases dec
  · show ((get s r).toNat - (get s r).toNat % 65536 + ((get s r).toNat % 65536 + 1 + 0) % 65536 % 65536) % 2 ^ 64 % 65536 =
      ((get s r).toNat + 1) % 65536
    rw [low16_splice, Nat.mod_mod, Nat.add_zero, Nat.mod_add_mod]
  · show ((get s r).toNat - (get s r).toNat % 65536 + ((get s r).toNat % 65536 + 65536 + 65536 - 1 - 0) % 65536 % 65536) % 2 ^ 64 % 65536 =
      ((get s r).toNat + (65536 - 1)) % 65536
    rw [low16_splice, Nat.mod_mod, Nat.sub_zero, Nat.sub_add_comm (Nat.le_add_left 1 _), Nat.add_mod_right,
      Nat.add_sub_assoc (by decide : 1 ≤ 65536), Nat.mod_add_mod]

theorem or_disjoint (q b k : Nat) (hb : b < 2 ^ k) : (q * 2 ^ k) ||| b = q * 2 ^ k + b := by
  rw [← Nat.shiftLeft_eq]
  exact (Nat.shiftLeft_add_eq_or_of_lt hb q).symm

open GbVerif.Interp in
theorem step_sh32_lit (B : BusOps β) (s s1 : St β) (op : ShOp) (r c len : Nat) (hc : c < 256) (hr : r < s.r.size)
    (h : step B s (.sh32 op r c) len = .ok s1) :
    (get s1 r).toNat = (shOp op 32 ((get s r).toNat % 2 ^ 32) c s.fl).1 % 2 ^ 32 := by
  simp only [step] at h
  cases h
  refine (toNat_get_set ({ s with pc := s.pc + len } : St β) r _ hr).trans ?_
  show (shOp op 32 ((get s r).toNat % 2 ^ 32) (tokVal ({ s with pc := s.pc + len } : St β) c) s.fl).1 % 2 ^ 32 % 2 ^ 64 = _
  rw [tokVal_small _ c hc]
  omega

end GbVerif.X86
