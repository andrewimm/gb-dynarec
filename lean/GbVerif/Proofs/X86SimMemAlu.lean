import GbVerif.Proofs.X86SimMem
import GbVerif.Proofs.X86SimAdc
/-
C01, the bus side: ADD / ADC / SUB / SBC / AND / XOR / OR / CP with the operand (HL).  The template reads the byte into dl
(DE saved on the host stack), runs the register form of the operation with source dl, and pops DE back.
-/
namespace GbVerif.X86
open GbVerif.JitCycles GbVerif.Interp
variable {β : Type}

theorem exec_read_dl (B : BusOps β) (hB : ByteReads B) (ps : List (Nat × Nat)) (o1 o2 o3 o4 o5 e : Nat) (g : Regs) (st s8 : St β)
    (hs : Sim g st)
    (hex : execList B e (pushAll ps ++ ([(o1, Instr.mov Size.q 6 1)] ++ ([(o2, Instr.movabs 7 512), (o3, Instr.movabs 0 513),
      (o4, Instr.callRax)] ++ [(o5, Instr.mov Size.q 2 0)]))) st = .ok s8) :
    ∃ v, B.read st.bus (getReg16 g .HL) = .ok v ∧ v < 256 ∧ (get s8 2).toNat % 256 = v ∧
      (∀ j, j ∉ [0, 1, 2, 6, 7, 8, 9, 10, 11] → get s8 j = get st j) ∧
      s8.stack = (ps.map (·.2)).reverse.map (get st) ++ st.stack ∧ s8.bus = st.bus ∧ s8.r.size = 16 := by
  obtain ⟨s3, hpu, hex⟩ := execList_append B e _ _ st s8 hex
  obtain ⟨s4, hpr, hex⟩ := execList_append B e _ _ s3 s8 hex
  obtain ⟨s7, hcall, hmv⟩ := execList_append B e _ _ s4 s8 hex
  obtain ⟨R3, Z3, K3, B3, _, _⟩ := exec_pushAll B _ _ st s3 hpu
  have Z3' : s3.r.size = 16 := Z3.trans hs.size
  obtain ⟨v4, f4⟩ := step_movq B (execList_one B hpr) (by omega)
  obtain ⟨v, hrd, hv, hal, sc7⟩ := exec_call_read B hB (f4.size.trans Z3') hcall
  rw [v4, R3, hs.hl, f4.bus, B3] at hrd
  have sc := (Scratch.of_frame (by decide) f4).trans sc7
  obtain ⟨v8, f8⟩ := step_movq B (execList_one B hmv) (by rw [sc.size, Z3']; decide)
  have sc := sc.trans (.of_frame (by decide) f8)
  exact ⟨v, hrd, hv, by rw [v8]; exact hal, fun j hj => (sc.regs j hj).trans (R3 j), sc.stack.trans K3, sc.bus.trans B3,
    sc.size.trans Z3'⟩

/-- `push rdx rax rcx ; mov rsi,rcx ; movabs rdi ; movabs rax,RD8 ; call ; mov rdx,rax ; pop rcx ; pop rax` -/
def readHlPre : List (Nat × Instr) :=
  [(0, Instr.push 2), (1, Instr.push 0), (2, Instr.push 1), (3, Instr.mov Size.q 6 1), (6, Instr.movabs 7 512), (16, Instr.movabs 0 513),
   (26, Instr.callRax), (28, Instr.mov Size.q 2 0), (31, Instr.pop 1), (32, Instr.pop 0)]

theorem readHl_pre (B : BusOps β) (hB : ByteReads B) (e : Nat) (g : Regs) (st s10 : St β) (hs : Sim g st)
    (hex : execList B e readHlPre st = .ok s10) :
    ∃ v, B.read st.bus (getReg16 g .HL) = .ok v ∧ v < 256 ∧ (get s10 2).toNat % 256 = v ∧
      get s10 0 = get st 0 ∧ get s10 1 = get st 1 ∧ (∀ j, j ∉ [0, 1, 2, 6, 7, 8, 9, 10, 11] → get s10 j = get st j) ∧
      s10.stack = get st 2 :: st.stack ∧ s10.bus = st.bus ∧ s10.r.size = 16 := by
  have hex : execList B e ((pushAll [(0, 2), (1, 0), (2, 1)] ++ ([(3, Instr.mov Size.q 6 1)] ++
      ([(6, Instr.movabs 7 512), (16, Instr.movabs 0 513), (26, Instr.callRax)] ++ [(28, Instr.mov Size.q 2 0)]))) ++
        popAll [(31, 1), (32, 0)]) st = .ok s10 := hex
  obtain ⟨s8, hrd, hpo⟩ := execList_append B e _ _ st s10 hex
  obtain ⟨v, hrd, hv, hdl, r8, k8, b8, z8⟩ := exec_read_dl B hB _ _ _ _ _ _ _ g st s8 hs hrd
  obtain ⟨k', b', z', r'⟩ := exec_popAll B _ (get st) (get st 2 :: st.stack) [(31, 1), (32, 0)] s8 s10 k8 (by decide) z8 hpo
  refine ⟨v, hrd, hv, ?_, (r' 0).trans (if_pos (by decide)), (r' 1).trans (if_pos (by decide)), fun j hj => ?_, k', b'.trans b8, z'⟩
  · rw [r' 2, if_neg (by decide)]; exact hdl
  · exact (r' j).trans ((if_neg fun hm => hj ((by decide : ∀ x ∈ [1, 0], x ∈ [0, 1, 2, 6, 7, 8, 9, 10, 11]) j hm)).trans (r8 j hj))

/-- AF after `f` depends on AF before (and the operand) only: so it is for the ALU operations -/
def AfOnly (f : Regs → Nat → Regs) : Prop := ∀ g1 g2 v, g1.af = g2.af → (f g1 v).af = (f g2 v).af

theorem af_testZero (r1 r2 : Regs) (x : Nat) (h : r1.af = r2.af) : (testZero r1 x).af = (testZero r2 x).af := by
  unfold testZero; split
  · show r1.af ||| _ = r2.af ||| _; rw [h]
  · exact h
theorem af_testHalf (r1 r2 : Regs) (c : Bool) (h : r1.af = r2.af) : (testHalf r1 c).af = (testHalf r2 c).af := by
  cases c
  · exact h
  · show r1.af ||| _ = r2.af ||| _; rw [h]
theorem af_testCarry (r1 r2 : Regs) (c : Bool) (h : r1.af = r2.af) : (testCarry r1 c).af = (testCarry r2 c).af := by
  cases c
  · exact h
  · show r1.af ||| _ = r2.af ||| _; rw [h]
theorem af_orF (r1 r2 : Regs) (b : Nat) (h : r1.af = r2.af) : (orF r1 b).af = (orF r2 b).af := by
  show r1.af ||| _ = r2.af ||| _; rw [h]
theorem af_applyMask (r1 r2 : Regs) (b : Nat) (h : r1.af = r2.af) : (applyMask r1 b).af = (applyMask r2 b).af := by
  show r1.af &&& _ = r2.af &&& _; rw [h]
theorem af_setA (r1 r2 : Regs) (x : Nat) (h : r1.af = r2.af) : (setReg r1 .A x).af = (setReg r2 .A x).af := by
  show setHi r1.af x = setHi r2.af x; rw [h]
theorem getA_congr (r1 r2 : Regs) (h : r1.af = r2.af) : getReg r1 .A = getReg r2 .A := by
  show getHi r1.af = getHi r2.af; rw [h]
theorem af_flagsAdd (r1 r2 : Regs) (res : Nat × Bool × Bool) (h : r1.af = r2.af) : (flagsAdd r1 res).af = (flagsAdd r2 res).af :=
  af_testZero _ _ _ (af_testHalf _ _ _ (af_testCarry _ _ _ (af_applyMask _ _ _ h)))
theorem af_flagsSub (r1 r2 : Regs) (res : Nat × Bool × Bool) (h : r1.af = r2.af) : (flagsSub r1 res).af = (flagsSub r2 res).af :=
  af_testZero _ _ _ (af_orF _ _ _ (af_testHalf _ _ _ (af_testCarry _ _ _ (af_applyMask _ _ _ h))))

theorem afOnly_add : AfOnly (fun g v => opAdd g v) := by
  intro g1 g2 v h
  show (flagsAdd (setReg g1 .A (carryAdd (getReg g1 .A) v).1) (carryAdd (getReg g1 .A) v)).af = (flagsAdd (setReg g2 .A (carryAdd (getReg g2 .A) v).1) (carryAdd (getReg g2 .A) v)).af
  rw [getA_congr g1 g2 h]; exact af_flagsAdd _ _ _ (af_setA _ _ _ h)
theorem afOnly_adc : AfOnly (fun g v => opAdc g v) := by
  intro g1 g2 v h
  show (flagsAdd (setReg g1 .A (carryAdc (getReg g1 .A) v g1.af).1) (carryAdc (getReg g1 .A) v g1.af)).af = (flagsAdd (setReg g2 .A (carryAdc (getReg g2 .A) v g2.af).1) (carryAdc (getReg g2 .A) v g2.af)).af
  rw [getA_congr g1 g2 h, h]; exact af_flagsAdd _ _ _ (af_setA _ _ _ h)
theorem afOnly_sub : AfOnly (fun g v => opSub g v) := by
  intro g1 g2 v h
  show (flagsSub (setReg g1 .A (carrySub (getReg g1 .A) v).1) (carrySub (getReg g1 .A) v)).af = (flagsSub (setReg g2 .A (carrySub (getReg g2 .A) v).1) (carrySub (getReg g2 .A) v)).af
  rw [getA_congr g1 g2 h]; exact af_flagsSub _ _ _ (af_setA _ _ _ h)
theorem afOnly_sbc : AfOnly (fun g v => opSbc g v) := by
  intro g1 g2 v h
  show (flagsSub (setReg g1 .A (carrySbc (getReg g1 .A) v g1.af).1) (carrySbc (getReg g1 .A) v g1.af)).af = (flagsSub (setReg g2 .A (carrySbc (getReg g2 .A) v g2.af).1) (carrySbc (getReg g2 .A) v g2.af)).af
  rw [getA_congr g1 g2 h, h]; exact af_flagsSub _ _ _ (af_setA _ _ _ h)
theorem afOnly_cp : AfOnly (fun g v => opCp g v) := by
  intro g1 g2 v h
  show (flagsSub g1 (carrySub (getReg g1 .A) v)).af = (flagsSub g2 (carrySub (getReg g2 .A) v)).af
  rw [getA_congr g1 g2 h]; exact af_flagsSub _ _ _ h
theorem afOnly_and : AfOnly (fun g v => opAnd g v) := by
  intro g1 g2 v h
  show (testZero (orF (applyMask (setReg g1 .A (getReg g1 .A &&& v)) 0xf0) 0x20) (getReg g1 .A &&& v)).af = (testZero (orF (applyMask (setReg g2 .A (getReg g2 .A &&& v)) 0xf0) 0x20) (getReg g2 .A &&& v)).af
  rw [getA_congr g1 g2 h]; exact af_testZero _ _ _ (af_orF _ _ _ (af_applyMask _ _ _ (af_setA _ _ _ h)))
theorem afOnly_xor : AfOnly (fun g v => opXor g v) := by
  intro g1 g2 v h
  show (testZero (applyMask (setReg g1 .A (getReg g1 .A ^^^ v)) 0xf0) (getReg g1 .A ^^^ v)).af = (testZero (applyMask (setReg g2 .A (getReg g2 .A ^^^ v)) 0xf0) (getReg g2 .A ^^^ v)).af
  rw [getA_congr g1 g2 h]; exact af_testZero _ _ _ (af_applyMask _ _ _ (af_setA _ _ _ h))
theorem afOnly_or : AfOnly (fun g v => opOr g v) := by
  intro g1 g2 v h
  show (testZero (applyMask (setReg g1 .A (getReg g1 .A ||| v)) 0xf0) (getReg g1 .A ||| v)).af = (testZero (applyMask (setReg g2 .A (getReg g2 .A ||| v)) 0xf0) (getReg g2 .A ||| v)).af
  rw [getA_congr g1 g2 h]; exact af_testZero _ _ _ (af_applyMask _ _ _ (af_setA _ _ _ h))

/-- read (HL) into dl, run the register form of an operation on A with source dl, restore DE -/
theorem alu_hl_wrap (B : BusOps β) (hB : ByteReads B) (aluBody : List (Nat × Instr)) (o e' : Nat) (f : Regs → Nat → Regs)
    (hfaf : AfOnly f) (hfs : ∀ g v, SameButAf g (f g v)) (P : Regs → Prop) (hP : ∀ g1 g2 : Regs, g1.af = g2.af → P g1 → P g2)
    (hbody : ∀ (g' : Regs) (v : Nat) (st0 s1 : St β), Sim g' st0 → P g' → get8 st0 (.lo 2) = v → v < 256 →
      execList B (headOff e' [(o, Instr.pop 2)]) aluBody st0 = .ok s1 → Sim (f g' v) s1 ∧ Untouched st0 s1)
    (g : Regs) (st s' : St β) (hs : Sim g st) (hPg : P g)
    (hex : execList B e' ((readHlPre ++ aluBody) ++ [(o, Instr.pop 2)]) st = .ok s') :
    ∃ v, B.read st.bus (getReg16 g .HL) = .ok v ∧ Sim (f g v) s' ∧ Untouched st s' := by
  obtain ⟨sb, hex1, hexp⟩ := execList_append B e' _ _ st s' hex
  obtain ⟨sa, hpre, hbd⟩ := execList_append B _ _ readHlPre st sb hex1
  obtain ⟨v, hrd, hvlt, hdl, h0, h1, hrest, hk, hb, hsz⟩ := readHl_pre B hB _ g st sa hs hpre
  have hsa : Sim { g with de := (get sa 2).toNat } sa :=
    ⟨by rw [h0]; exact hs.af, by rw [h1]; exact hs.hl, rfl, by rw [hrest 3 (by decide)]; exact hs.bc,
     by rw [hrest 12 (by decide)]; exact hs.sp, by rw [hrest 13 (by decide)]; exact hs.ip, by rw [hrest 15 (by decide)]; exact hs.cy, hsz⟩
  obtain ⟨hsb, hub⟩ := hbody { g with de := (get sa 2).toNat } v sa sb hsa (hP g _ rfl hPg) hdl hvlt hbd
  obtain ⟨sc, hp, hnil⟩ := execList_cons B _ _ _ _ _ _ hexp
  have := execList_nil B _ _ _ hnil
  subst this
  obtain ⟨w, rest, ew, kw, gw, qw, bw, zw⟩ := step_pop B sb s' 2 _ (by rw [hsb.size]; decide) hp
  rw [hub.stack, hk] at ew
  obtain ⟨aw, ew⟩ := List.cons.inj ew
  obtain ⟨p1, p2, p3, p4, p5, p6⟩ := hfs { g with de := (get sa 2).toNat } v
  obtain ⟨q1, q2, q3, q4, q5, q6⟩ := hfs g v
  have haf : (f { g with de := (get sa 2).toNat } v).af = (f g v).af := hfaf _ _ v rfl
  refine ⟨v, hrd, ⟨?_, ?_, ?_, ?_, ?_, ?_, ?_, by rw [zw]; exact hsb.size⟩, ⟨by rw [bw, hub.bus, hb], by rw [kw]; exact ew.symm, ?_⟩⟩
  · rw [qw 0 (by decide), ← haf]; exact hsb.af
  · rw [qw 1 (by decide), q3]; have := hsb.hl; rw [p3] at this; exact this
  · rw [gw, ← aw, q2]; exact hs.de
  · rw [qw 3 (by decide), q1]; have := hsb.bc; rw [p1] at this; exact this
  · rw [qw 12 (by decide), q4]; have := hsb.sp; rw [p4] at this; exact this
  · rw [qw 13 (by decide), q5]; have := hsb.ip; rw [p5] at this; exact this
  · rw [qw 15 (by decide), q6]; have := hsb.cy; rw [p6] at this; exact this
  · rw [qw 14 (by decide), hub.r14, hrest 14 (by decide)]

/-- `SimulatesMem` from register files whose F has a clear low nibble -/
def SimulatesMemF (b0 b1 b2 : Nat) : Prop :=
  ∃ code, decodeCode (Gen.emitOp b0) = some code ∧
  ∀ (β : Type) (B : BusOps β), ByteReads B → ∀ (g : Regs) (fuel : Nat) (st st' : St β), Sim g st → g.af % 16 = 0 → st.pc = 0 → st.op1 = b1 → st.op2 = b2 →
    run B code (bytesOf (Gen.emitOp b0)) fuel st = .ok st' →
    ∃ g' m', runOp B (Gen.decode b0 b1 b2).1 g st.bus (Gen.decode b0 b1 b2).2.1 = .ok (g', m', STATUS_NORMAL) ∧
      Sim { g' with cycles := g'.cycles + (Gen.decode b0 b1 b2).2.2 / 4 } st' ∧ st'.bus = m' ∧ st'.stack = st.stack ∧ get st' 14 = get st 14

theorem SimulatesMemF.intro {b0 b1 b2 : Nat} {body : List (Nat × Instr)} {o1 o2 e n c k : Nat} {op : Op}
    (htab : decodeCode (Gen.emitOp b0) = some (body ++ [(o1, addIp n), (o2, addCy c)]) ∧ bytesOf (Gen.emitOp b0) = e ∧
      Gen.decode b0 b1 b2 = (op, n, k))
    (hnj : noJump body = true) (hn : n < 128) (hc : c < 128) (hk : k / 4 = c)
    (hbody : ∀ {β : Type} (B : BusOps β), ByteReads B → ∀ (g : Regs) (st s1 : St β), Sim g st → g.af % 16 = 0 → st.op1 = b1 →
      st.op2 = b2 → execList B o1 body st = .ok s1 →
      ∃ g1 m', runOp B op g st.bus n = .ok (advance g1 n, m', STATUS_NORMAL) ∧ Sim g1 s1 ∧ s1.bus = m' ∧ s1.stack = st.stack ∧
        get s1 14 = get st 14) :
    SimulatesMemF b0 b1 b2 :=
  simulatesMem_of_body (fun g => g.af % 16 = 0) htab hnj hn hc hk hbody

/-- offsets of the register form inside the (HL) templates: `aluOff' 2` past the 33 bytes of `readHlPre` -/
def hlOff (k : Nat) : Nat := 33 + aluOff' 2 k
/-- offsets of the register form of ADC / SBC inside the (HL) templates: `adcOff 2` past `readHlPre` -/
def hlOffC (k : Nat) : Nat := 33 + adcOff 2 k

theorem rd_dl (B : BusOps β) (op : AluOp) : IsAOp B op (Instr.alu8 op (R8.hi 0) (R8.lo 2)) (fun s => get8 s (.lo 2)) := isAOp_reg B op (.lo 2)

theorem rdStable_dl : RdStable (β := β) (fun s => get8 s (.lo 2)) := by
  intro s s' hj _ _
  show (get s' 2).toNat % 256 = (get s 2).toNat % 256
  rw [hj 2 (by decide)]

theorem table_86 (b1 b2 : Nat) :
    decodeCode (Gen.emitOp 0x86) = some (((readHlPre ++ ((33, Instr.alu8 AluOp.add (R8.hi 0) (R8.lo 2)) :: pipeAt hlOff 15 240)) ++ [(64, Instr.pop 2)]) ++ [(65, addIp 1), (69, addCy 2)]) ∧
    bytesOf (Gen.emitOp 0x86) = 73 ∧ Gen.decode 0x86 b1 b2 = (.AddIndirect, 1, 8) := ⟨by decide +kernel, by decide +kernel, rfl⟩

/-- **ADD A,(HL)**: all states, any bus whose reads return bytes -/
theorem sim_86 (b1 b2 : Nat) : SimulatesMem 0x86 b1 b2 :=
  SimulatesMem.intro_read (table_86 b1 b2) rfl (by decide) (by decide) rfl (fun _ _ _ => rfl)
    fun B hB g st s1 hs _ _ hex => alu_hl_wrap B hB _ _ _ (fun g v => opAdd g v) afOnly_add (fun g _ => (sameButAf_setA g _).trans (sameButAf_flagsAdd _ _)) (fun _ => True) (fun _ _ _ h => h)
      (fun g' v st0 s1 hs0 _ hv0 _ hex0 => add_body B _ _ (rd_dl B .add) v hlOff 64 g' st0 s1 hs0 hv0 hex0) g st s1 hs trivial hex

theorem table_96 (b1 b2 : Nat) :
    decodeCode (Gen.emitOp 0x96) = some (((readHlPre ++ (((33, Instr.alu8 AluOp.sub (R8.hi 0) (R8.lo 2)) :: pipeAt hlOff 15 240) ++ [(64, Instr.alu8i AluOp.or (R8.lo 0) 64)])) ++ [(66, Instr.pop 2)]) ++ [(67, addIp 1), (71, addCy 2)]) ∧
    bytesOf (Gen.emitOp 0x96) = 75 ∧ Gen.decode 0x96 b1 b2 = (.SubIndirect, 1, 8) := ⟨by decide +kernel, by decide +kernel, rfl⟩

/-- **SUB (HL)**: all states, any bus whose reads return bytes -/
theorem sim_96 (b1 b2 : Nat) : SimulatesMem 0x96 b1 b2 :=
  SimulatesMem.intro_read (table_96 b1 b2) rfl (by decide) (by decide) rfl (fun _ _ _ => rfl)
    fun B hB g st s1 hs _ _ hex => alu_hl_wrap B hB _ _ _ (fun g v => opSub g v) afOnly_sub (fun g _ => (sameButAf_setA g _).trans (sameButAf_flagsSub _ _)) (fun _ => True) (fun _ _ _ h => h)
      (fun g' v st0 s1 hs0 _ hv0 hvlt hex0 => sub_body B .sub (Or.inl rfl) _ _ (rd_dl B .sub) v hlOff 66 g' st0 s1 hs0 hv0 hvlt hex0) g st s1 hs trivial hex

theorem table_be (b1 b2 : Nat) :
    decodeCode (Gen.emitOp 0xbe) = some (((readHlPre ++ (((33, Instr.alu8 AluOp.cmp (R8.hi 0) (R8.lo 2)) :: pipeAt hlOff 15 240) ++ [(64, Instr.alu8i AluOp.or (R8.lo 0) 64)])) ++ [(66, Instr.pop 2)]) ++ [(67, addIp 1), (71, addCy 2)]) ∧
    bytesOf (Gen.emitOp 0xbe) = 75 ∧ Gen.decode 0xbe b1 b2 = (.CompareIndirect, 1, 8) := ⟨by decide +kernel, by decide +kernel, rfl⟩

/-- **CP (HL)**: all states, any bus whose reads return bytes -/
theorem sim_be (b1 b2 : Nat) : SimulatesMem 0xbe b1 b2 :=
  SimulatesMem.intro_read (table_be b1 b2) rfl (by decide) (by decide) rfl (fun _ _ _ => rfl)
    fun B hB g st s1 hs _ _ hex => alu_hl_wrap B hB _ _ _ (fun g v => opCp g v) afOnly_cp (fun _ _ => sameButAf_flagsSub _ _) (fun _ => True) (fun _ _ _ h => h)
      (fun g' v st0 s1 hs0 _ hv0 hvlt hex0 => sub_body B .cmp (Or.inr rfl) _ _ (rd_dl B .cmp) v hlOff 66 g' st0 s1 hs0 hv0 hvlt hex0) g st s1 hs trivial hex

theorem table_a6 (b1 b2 : Nat) :
    decodeCode (Gen.emitOp 0xa6) = some (((readHlPre ++ (((33, Instr.alu8 AluOp.and (R8.hi 0) (R8.lo 2)) :: pipeAt hlOff 127 128) ++ [(64, Instr.alu8i AluOp.and (R8.lo 0) 175), (66, Instr.alu8i AluOp.or (R8.lo 0) 32)])) ++ [(68, Instr.pop 2)]) ++ [(69, addIp 1), (73, addCy 2)]) ∧
    bytesOf (Gen.emitOp 0xa6) = 77 ∧ Gen.decode 0xa6 b1 b2 = (.AndIndirect, 1, 8) := ⟨by decide +kernel, by decide +kernel, rfl⟩

/-- **AND (HL)**: all states, any bus whose reads return bytes -/
theorem sim_a6 (b1 b2 : Nat) : SimulatesMem 0xa6 b1 b2 :=
  SimulatesMem.intro_read (table_a6 b1 b2) rfl (by decide) (by decide) rfl (fun _ _ _ => rfl)
    fun B hB g st s1 hs _ _ hex => alu_hl_wrap B hB _ _ _ (fun g v => opAnd g v) afOnly_and (fun g _ => sameButAf_logic g _ true) (fun _ => True) (fun _ _ _ h => h)
      (fun g' v st0 s1 hs0 _ hv0 _ hex0 => and_body B _ _ (rd_dl B .and) 127 128 175 (by decide) (by decide) (by decide) fAnd_eq v hlOff 68 g' st0 s1 hs0 hv0 hex0) g st s1 hs trivial hex

theorem table_ae (b1 b2 : Nat) :
    decodeCode (Gen.emitOp 0xae) = some (((readHlPre ++ (((33, Instr.alu8 AluOp.xor (R8.hi 0) (R8.lo 2)) :: pipeAt hlOff 127 128) ++ [(64, Instr.alu8i AluOp.and (R8.lo 0) 143)])) ++ [(66, Instr.pop 2)]) ++ [(67, addIp 1), (71, addCy 2)]) ∧
    bytesOf (Gen.emitOp 0xae) = 75 ∧ Gen.decode 0xae b1 b2 = (.XorIndirect, 1, 8) := ⟨by decide +kernel, by decide +kernel, rfl⟩

/-- **XOR (HL)**: all states, any bus whose reads return bytes -/
theorem sim_ae (b1 b2 : Nat) : SimulatesMem 0xae b1 b2 :=
  SimulatesMem.intro_read (table_ae b1 b2) rfl (by decide) (by decide) rfl (fun _ _ _ => rfl)
    fun B hB g st s1 hs _ _ hex => alu_hl_wrap B hB _ _ _ (fun g v => opXor g v) afOnly_xor (fun g _ => sameButAf_logic g _ false) (fun _ => True) (fun _ _ _ h => h)
      (fun g' v st0 s1 hs0 _ hv0 hvlt hex0 => xo_body B .xor (Or.inl rfl) _ _ (rd_dl B .xor) v hvlt hlOff 66 g' st0 s1 hs0 hv0 hex0) g st s1 hs trivial hex

theorem table_b6 (b1 b2 : Nat) :
    decodeCode (Gen.emitOp 0xb6) = some (((readHlPre ++ (((33, Instr.alu8 AluOp.or (R8.hi 0) (R8.lo 2)) :: pipeAt hlOff 127 128) ++ [(64, Instr.alu8i AluOp.and (R8.lo 0) 143)])) ++ [(66, Instr.pop 2)]) ++ [(67, addIp 1), (71, addCy 2)]) ∧
    bytesOf (Gen.emitOp 0xb6) = 75 ∧ Gen.decode 0xb6 b1 b2 = (.OrIndirect, 1, 8) := ⟨by decide +kernel, by decide +kernel, rfl⟩

/-- **OR (HL)**: all states, any bus whose reads return bytes -/
theorem sim_b6 (b1 b2 : Nat) : SimulatesMem 0xb6 b1 b2 :=
  SimulatesMem.intro_read (table_b6 b1 b2) rfl (by decide) (by decide) rfl (fun _ _ _ => rfl)
    fun B hB g st s1 hs _ _ hex => alu_hl_wrap B hB _ _ _ (fun g v => opOr g v) afOnly_or (fun g _ => sameButAf_logic g _ false) (fun _ => True) (fun _ _ _ h => h)
      (fun g' v st0 s1 hs0 _ hv0 hvlt hex0 => xo_body B .or (Or.inr rfl) _ _ (rd_dl B .or) v hvlt hlOff 66 g' st0 s1 hs0 hv0 hex0) g st s1 hs trivial hex

theorem table_8e (b1 b2 : Nat) :
    decodeCode (Gen.emitOp 0x8e) = some (((readHlPre ++ ([(33, Instr.alu8i AluOp.and (R8.lo 0) 16), (35, Instr.alu8i AluOp.add (R8.lo 0) 240)] ++ ((37, Instr.alu8 AluOp.adc (R8.hi 0) (R8.lo 2)) :: pipeAt hlOffC 15 240))) ++ [(68, Instr.pop 2)]) ++ [(69, addIp 1), (73, addCy 2)]) ∧
    bytesOf (Gen.emitOp 0x8e) = 77 ∧ Gen.decode 0x8e b1 b2 = (.AddIndirectWithCarry, 1, 8) := ⟨by decide +kernel, by decide +kernel, rfl⟩

/-- **ADC A,(HL)**: all states whose F has a clear low nibble, any bus whose reads return bytes -/
theorem sim_8e (b1 b2 : Nat) : SimulatesMemF 0x8e b1 b2 :=
  SimulatesMemF.intro (table_8e b1 b2) rfl (by decide) (by decide) rfl fun B hB g st s1 hs h0 _ _ hex =>
    have ⟨_, hrd, hs1, hu⟩ := alu_hl_wrap B hB _ _ _ (fun g v => opAdc g v) afOnly_adc (fun g _ => (sameButAf_setA g _).trans (sameButAf_flagsAdd _ _)) (fun g => g.af % 16 = 0) (fun _ _ h hp => h ▸ hp)
      (fun g' v st0 s1 hs0 hp0 hv0 hvlt hex0 => adc_body B _ _ (rd_dl B .adc) rdStable_dl v hvlt 33 35 hlOffC 68 g' st0 s1 hs0 hp0 hv0 hex0) g st s1 hs h0 hex
    ⟨_, _, bind_ok hrd _, hs1, hu.bus, hu.stack, hu.r14⟩

theorem table_9e (b1 b2 : Nat) :
    decodeCode (Gen.emitOp 0x9e) = some (((readHlPre ++ (([(33, Instr.alu8i AluOp.and (R8.lo 0) 16), (35, Instr.alu8i AluOp.add (R8.lo 0) 240)] ++ ((37, Instr.alu8 AluOp.sbb (R8.hi 0) (R8.lo 2)) :: pipeAt hlOffC 15 240)) ++ [(68, Instr.alu8i AluOp.or (R8.lo 0) 64)])) ++ [(70, Instr.pop 2)]) ++ [(71, addIp 1), (75, addCy 2)]) ∧
    bytesOf (Gen.emitOp 0x9e) = 79 ∧ Gen.decode 0x9e b1 b2 = (.SubIndirectWithCarry, 1, 8) := ⟨by decide +kernel, by decide +kernel, rfl⟩

/-- **SBC A,(HL)**: all states whose F has a clear low nibble, any bus whose reads return bytes -/
theorem sim_9e (b1 b2 : Nat) : SimulatesMemF 0x9e b1 b2 :=
  SimulatesMemF.intro (table_9e b1 b2) rfl (by decide) (by decide) rfl fun B hB g st s1 hs h0 _ _ hex =>
    have ⟨_, hrd, hs1, hu⟩ := alu_hl_wrap B hB _ _ _ (fun g v => opSbc g v) afOnly_sbc (fun g _ => (sameButAf_setA g _).trans (sameButAf_flagsSub _ _)) (fun g => g.af % 16 = 0) (fun _ _ h hp => h ▸ hp)
      (fun g' v st0 s1 hs0 hp0 hv0 hvlt hex0 => sbc_body B _ _ (rd_dl B .sbb) rdStable_dl v hvlt 33 35 hlOffC 70 g' st0 s1 hs0 hp0 hv0 hex0) g st s1 hs h0 hex
    ⟨_, _, bind_ok hrd _, hs1, hu.bus, hu.stack, hu.r14⟩

end GbVerif.X86
