import GbVerif.Proofs.X86Step
/-!
The host stack and the bus under one step of the x86 model: what push / pop / pushf / popf / a store to `[rsp+d]` do to
the stack, and, read off `step_effect`, that no other instruction touches it (`step_stack`) and only `call rax` touches
the bus (`step_bus`).
-/
namespace GbVerif.X86
open GbVerif.JitCycles
variable {β : Type}

theorem stack_set8 (s : St β) (r : R8) (v : Nat) : (set8 s r v).stack = s.stack := (regUpd_set8 s r v).stack
theorem stack_setSz (s : St β) (sz : Size) (i v : Nat) : (setSz s sz i v).stack = s.stack := (regUpd_setSz s sz i v).stack
theorem bus_set8 (s : St β) (r : R8) (v : Nat) : (set8 s r v).bus = s.bus := (regUpd_set8 s r v).bus
theorem bus_setSz (s : St β) (sz : Size) (i v : Nat) : (setSz s sz i v).bus = s.bus := (regUpd_setSz s sz i v).bus

theorem push_stack (B : Interp.BusOps β) {s s' : St β} {r len : Nat} (h : step B s (.push r) len = .ok s') :
    s'.stack = get s r :: s.stack := by
  cases h; rfl

theorem pushf_stack (B : Interp.BusOps β) {s s' : St β} {len : Nat} (h : step B s .pushf len = .ok s') :
    s'.stack = BitVec.ofNat 64 (flagsWord s.fl) :: s.stack := by
  cases h; rfl

theorem pop_stack (B : Interp.BusOps β) {s s' : St β} {r len : Nat} (h : step B s (.pop r) len = .ok s') :
    ∃ w, s.stack = w :: s'.stack ∧ (r < s.r.size → get s' r = w) := by
  simp only [step] at h
  split at h
  · rename_i w rest hs
    cases h
    exact ⟨w, hs, fun hr => get_set_eq _ _ _ hr⟩
  · cases h

theorem popf_stack (B : Interp.BusOps β) {s s' : St β} {len : Nat} (h : step B s .popf len = .ok s') :
    ∃ w, s.stack = w :: s'.stack := by
  simp only [step] at h
  split at h
  · rename_i w rest hs
    cases h
    exact ⟨w, hs⟩
  · cases h

theorem store_stack (B : Interp.BusOps β) {s s' : St β} {sz : Size} {d src len : Nat}
    (h : step B s (.store sz 4 d src) len = .ok s') : ∃ w, d / 8 < s.stack.length ∧ s'.stack = s.stack.set (d / 8) w := by
  simp only [step, beq_self_eq_true, if_true] at h
  obtain ⟨w, hk, rfl⟩ := stackWrite_ok h
  exact ⟨w, hk, rfl⟩

theorem store8_stack (B : Interp.BusOps β) {s s' : St β} {d len : Nat} {src : R8}
    (h : step B s (.store8 4 d src) len = .ok s') : ∃ w, d / 8 < s.stack.length ∧ s'.stack = s.stack.set (d / 8) w := by
  simp only [step, beq_self_eq_true, if_true] at h
  obtain ⟨w, hk, rfl⟩ := stackWrite_ok h
  exact ⟨w, hk, rfl⟩

theorem movabs_get (B : Interp.BusOps β) {s s' : St β} {d p len : Nat} (h : step B s (.movabs d p) len = .ok s')
    (hd : d < s.r.size) : get s' d = ptrVal p := by
  cases h
  exact get_set_eq _ _ _ hd

theorem step_stack (B : Interp.BusOps β) (s s' : St β) (ins : Instr) (len : Nat) (h : step B s ins len = .ok s')
    (h1 : ∀ r, ins ≠ .push r) (h2 : ∀ r, ins ≠ .pop r) (h3 : ins ≠ .pushf) (h4 : ins ≠ .popf)
    (h5 : ∀ sz b d src, ins ≠ .store sz b d src) (h6 : ∀ b d src, ins ≠ .store8 b d src) : s'.stack = s.stack := by
  refine (step_effect B h).stack ?_
  cases ins
  case push r => exact absurd rfl (h1 r)
  case pop r => exact absurd rfl (h2 r)
  case pushf => exact absurd rfl h3
  case popf => exact absurd rfl h4
  case store sz b d src => exact absurd rfl (h5 sz b d src)
  case store8 b d src => exact absurd rfl (h6 b d src)
  all_goals rfl

theorem step_bus (B : Interp.BusOps β) (s s' : St β) (ins : Instr) (len : Nat) (h : step B s ins len = .ok s')
    (hc : ins ≠ .callRax) : s'.bus = s.bus :=
  (step_effect B h).bus hc

end GbVerif.X86
