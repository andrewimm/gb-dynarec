import GbVerif.Model.JitStatus
import GbVerif.Proofs.X86Paths
/-!
Soundness of the status analysis (`JitStatus.trSt`) for executions of the x86 model: the class of r14b.
-/
namespace GbVerif.X86
open GbVerif.JitCycles GbVerif.JitPaths GbVerif.JitStatus
variable {β : Type}

/-- the status byte a translated block hands back -/
def r14b (s : St β) : Nat := get8 s (.lo 14)

/-- the relation carried along a run: r14b is of class `cur`, or, straight after `sete r14b`, 0 or 1 -/
def StRel (cur : Nat) (s : St β) : Prop :=
  if cur = pending then r14b s ≤ 1 else statusClass (r14b s) = cur

theorem get8_set8_lo (s : St β) (r v : Nat) (h : r < s.r.size) : get8 (set8 s (.lo r) v) (.lo r) = v % 256 := by
  simp only [get8, set8]
  rw [get_set_eq _ _ _ h, BitVec.toNat_ofNat]
  have := (get s r).isLt
  omega

theorem r14b_of_get {s s1 : St β} (h : get s1 14 = get s 14) : r14b s1 = r14b s := by
  unfold r14b; simp only [get8]; rw [h]

theorem ror_idiom (v : Nat) (fl : Flags) (h : v ≤ 1) : statusClass ((shOp .ror 8 v 1 fl).1 % 256) = 0 := by
  have : v = 0 ∨ v = 1 := by omega
  have hs : (shOp .ror 8 v 1 fl).1 = (v / 2 ^ 1) ||| (v * 2 ^ 7 % 2 ^ 8) := rfl
  rw [hs]
  rcases this with e | e <;> subst e <;> decide

theorem st_carries (B : Interp.BusOps β) : Carries B trSt (StRel (β := β)) where
  pc := fun _ _ _ h => h
  step := by
    intro ins a a' s s1 len hj1 hj2 htr hR hsz hstep
    unfold trSt at htr
    split at htr
    · -- mov r14b, v
      rename_i v
      split at htr
      · cases htr
      · rename_i hc
        cases htr
        simp only [Bool.or_eq_true, beq_iff_eq, decide_eq_true_eq, not_or] at hc
        simp only [step] at hstep
        injection hstep with hstep
        have hv : tokVal ({ s with pc := s.pc + len } : St β) v = v := tokVal_small _ v (by omega)
        have : r14b s1 = v := by
          rw [← hstep]; unfold r14b
          rw [get8_set8_lo _ _ _ (by show 14 < s.r.size; omega), hv]; omega
        unfold StRel
        have hne : statusClass v ≠ pending := by
          unfold statusClass pending
          split; · decide
          split; · decide
          split; · decide
          split <;> decide
        rw [if_neg hne, this]
    · -- sete r14b
      split at htr
      · cases htr
      · cases htr
        simp only [step] at hstep
        injection hstep with hstep
        unfold StRel
        rw [if_pos rfl, ← hstep]; unfold r14b
        rw [get8_set8_lo _ _ _ (by show 14 < s.r.size; omega)]
        split <;> decide
    · -- ror r14b, 1
      split at htr
      · rename_i hc
        have hc' : a = pending := by simpa using hc
        subst hc'
        cases htr
        unfold StRel at hR
        rw [if_pos rfl] at hR
        simp only [step] at hstep
        injection hstep with hstep
        unfold StRel
        rw [if_neg (by decide), ← hstep]; unfold r14b
        show statusClass (get8 (set8 _ (.lo 14) _) (.lo 14)) = 0
        rw [get8_set8_lo _ _ _ (by show 14 < s.r.size; omega)]
        have ht : tokVal ({ s with pc := s.pc + len } : St β) 1 = 1 := rfl
        rw [ht]
        exact ror_idiom _ _ hR
      · cases htr
    · rename_i h1 h2 h3
      split at htr
      · cases htr
      · rename_i hc
        cases htr
        simp only [Bool.or_eq_true, beq_iff_eq, not_or] at hc
        have hfr : get s1 14 = get s 14 := step_reg B hstep hc.2 (by decide)
        unfold StRel at hR ⊢
        rw [r14b_of_get hfr]; exact hR

/-- **what `jitStatus` means**: from a state whose r14b is of class normal, every complete run of the template leaves in
r14b a status of one of the classes of the analysis -/
theorem jitStatus_sound (B : Interp.BusOps β) (tokens : List Nat) (code : List (Nat × Instr)) (C : List Nat)
    (hdec : decodeCode tokens = some code) (hok : codeOk code (bytesOf tokens) = true) (hC : jitStatus tokens = some C)
    (fr : Nat) (s s' : St β) (hsz : s.r.size = 16) (hpc : s.pc = offAt code (bytesOf tokens) 0)
    (h0 : statusClass (r14b s) = 0) (hrun : run B code (bytesOf tokens) fr s = .ok s') :
    statusClass (r14b s') ∈ C := by
  have hR : StRel (β := β) 0 s := by unfold StRel; rw [if_neg (by decide)]; exact h0
  obtain ⟨a', n, hR', hf, hn⟩ := analyse_sound B trSt 0 (fun cur => if cur == pending then none else some cur) _ (st_carries B)
    tokens code C hdec hok hC fr s s' hsz hpc hR hrun
  split at hf
  · cases hf
  · rename_i hp
    cases hf
    unfold StRel at hR'
    rw [if_neg (by simpa using hp)] at hR'
    rw [hR']; exact hn

end GbVerif.X86
