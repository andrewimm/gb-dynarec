import GbVerif.Proofs.InterpMono
import GbVerif.Proofs.InterpFrame
import GbVerif.Proofs.BusWf
/-!
Blocks that perform no store below 0x8000 (no write to the cartridge's registers): the interpreter model runs them
exactly as on a bus where such stores are forbidden, and the cartridge state — hence the ROM bank mapped at
0x4000–0x7FFF — is the same before every instruction fetch of the block as at block entry (C03).
-/
namespace GbVerif.CoreProofs
open GbVerif.Interp

/-- the real bus with stores below 0x8000 forbidden -/
def hiBus : BusOps Bus.State := guard Cpu.busOps (fun a => decide (0x8000 ≤ a))

macro "wrc" h:ident : tactic => `(tactic| (
  obtain ⟨x, _, $h:ident⟩ := bind_ok_elim $h:ident
  injection $h:ident with $h:ident; subst $h:ident; rfl))

theorem hiBus_write {s s' : Bus.State} {a v : Nat} (h : hiBus.write s a v = .ok s') : s'.cart = s.cart := by
  rw [hiBus, guard_write_iff] at h
  exact BusProofs.write_cart_fixed (by simpa using h.1) h.2

theorem runOp_hi_cart {op : Op} {r r' : Regs} {s s' : Bus.State} {len st : Nat}
    (h : runOp hiBus op r s len = .ok (r', s', st)) : s'.cart = s.cart :=
  runOp_inv hiBus (fun m => m.cart = s.cart) (fun _ _ _ _ hw hp => (hiBus_write hw).trans hp) op r s len r' s' st h rfl

def runNextOpHi (r : Regs) (s : Bus.State) : Except Bus.Panic (Regs × Bus.State × Nat × Bool) := do
  let (b0, b1, b2) ← Cpu.fetch3 s r.ip
  let (op, len, clocks) := Gen.decode b0 b1 b2
  let (r, s, status) ← runOp hiBus op r s len
  pure ({ r with ip := r.ip &&& 0xffff, cycles := r.cycles + clocks / 4 }, s, status, Gen.isBlockEnd op)

/-- what a `runNextOpHi` that returns did: the fetch, the decoded instruction on the guarded bus, the bookkeeping -/
theorem runNextOpHi_elim {r : Regs} {s : Bus.State} {x : Regs × Bus.State × Nat × Bool} (h : runNextOpHi r s = .ok x) :
    ∃ b0 b1 b2 op len clocks r0 s0 st0, Cpu.fetch3 s r.ip = .ok (b0, b1, b2) ∧ Gen.decode b0 b1 b2 = (op, len, clocks) ∧
      runOp hiBus op r s len = .ok (r0, s0, st0) ∧
      x = ({ r0 with ip := r0.ip &&& 0xffff, cycles := r0.cycles + clocks / 4 }, s0, st0, Gen.isBlockEnd op) := by
  unfold runNextOpHi at h
  obtain ⟨⟨b0, b1, b2⟩, h0, h⟩ := bind_ok_elim h
  simp only [] at h
  generalize hd : Gen.decode b0 b1 b2 = d at h
  obtain ⟨op, len, clocks⟩ := d
  obtain ⟨⟨r0, s0, st0⟩, h1, h⟩ := bind_ok_elim h
  exact ⟨b0, b1, b2, op, len, clocks, r0, s0, st0, h0, hd, h1, (Except.ok.inj h).symm⟩

theorem runNextOpHi_spec {r : Regs} {s : Bus.State} {x : Regs × Bus.State × Nat × Bool} (h : runNextOpHi r s = .ok x) :
    Cpu.runNextOp r s = .ok x ∧ x.2.1.cart = s.cart := by
  obtain ⟨b0, b1, b2, op, len, clocks, r0, s0, st0, h0, hd, h1, rfl⟩ := runNextOpHi_elim h
  refine ⟨?_, runOp_hi_cart h1⟩
  unfold Cpu.runNextOp
  simp only [bind, Except.bind, h0, hd, runOp_guard Cpu.busOps _ op r s len _ h1]
  rfl

/-- the block loop on the guarded bus, recording the cartridge state in front of every instruction fetch -/
def runCodeBlockAuxHi (start : Nat) (r : Regs) (s : Bus.State) (status : Nat) :
    Nat → Except Bus.Panic ((Regs × Bus.State × Nat) × List Cart.State)
  | 0 => .error (.explicit "fuel")
  | fuel+1 =>
    if start < 0x8000 && Cpu.romBlockMustEnd start r.ip then pure ((r, s, status), [])
    else do
      let (r', s', st, stop) ← runNextOpHi r s
      if stop then pure ((r', s', st), [s.cart])
      else do
        let (res, tr) ← runCodeBlockAuxHi start r' s' st fuel
        pure (res, s.cart :: tr)

/-- a block without stores below 0x8000: the real block loop gives the same result, and the cartridge state in front of
every fetch (and at the end) is the one at block entry -/
theorem runCodeBlockAuxHi_spec (start : Nat) : ∀ (fuel : Nat) (r : Regs) (s : Bus.State) (st : Nat)
    (res : Regs × Bus.State × Nat) (tr : List Cart.State),
    runCodeBlockAuxHi start r s st fuel = .ok (res, tr) →
    Cpu.runCodeBlockAux start r s st fuel = .ok res ∧ (∀ c ∈ tr, c = s.cart) ∧ res.2.1.cart = s.cart := by
  intro fuel
  induction fuel with
  | zero => intro r s st res tr h; cases h
  | succ n ih =>
    intro r s st res tr h
    rw [runCodeBlockAuxHi] at h
    rw [Cpu.runCodeBlockAux]
    split at h
    · rename_i hc
      rw [if_pos hc]
      simp only [pure, Except.pure, Except.ok.injEq, Prod.mk.injEq] at h
      obtain ⟨rfl, rfl⟩ := h
      exact ⟨rfl, fun c hc => absurd hc (List.not_mem_nil), rfl⟩
    · rename_i hc
      rw [if_neg hc]
      obtain ⟨⟨r1, s1, st1, stop⟩, h1, h⟩ := bind_ok_elim h
      obtain ⟨hreal, hcart⟩ := runNextOpHi_spec h1
      simp only [bind, Except.bind, hreal]
      simp only [] at h hcart ⊢
      split at h
      · rename_i hs
        simp only [hs, if_true]
        simp only [pure, Except.pure, Except.ok.injEq, Prod.mk.injEq] at h
        obtain ⟨rfl, rfl⟩ := h
        refine ⟨rfl, ?_, hcart⟩
        intro c hc
        simpa using hc
      · rename_i hs
        simp only [hs, Bool.false_eq_true, if_false]
        obtain ⟨⟨res', tr'⟩, h2, h⟩ := bind_ok_elim h
        simp only [pure, Except.pure, Except.ok.injEq, Prod.mk.injEq] at h
        obtain ⟨rfl, rfl⟩ := h
        obtain ⟨i1, i2, i3⟩ := ih _ _ _ _ _ h2
        refine ⟨i1, ?_, i3.trans hcart⟩
        intro c hc
        rcases List.mem_cons.mp hc with rfl | hc
        · rfl
        · exact (i2 c hc).trans hcart

end GbVerif.CoreProofs
