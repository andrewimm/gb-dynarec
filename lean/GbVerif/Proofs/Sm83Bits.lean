import GbVerif.Proofs.Enum
import GbVerif.Proofs.NatBits
/-!
Bitwise-to-arithmetic facts on `Nat` used by the interpreter/SM83 refinement (core only).
Masks `2^n - 1` are remainders, single bits go through `NatBits`, a 16-bit operation splits into its bytes
(`and_split`, `xor_low`); only `xor_ff` is enumerated.
-/
namespace GbVerif.Sm83Bits
open GbVerif.Enum

theorem shr8 (x : Nat) : x >>> 8 = x / 256 := by rw [Nat.shiftRight_eq_div_pow]
theorem shr4 (x : Nat) : x >>> 4 = x / 16 := by rw [Nat.shiftRight_eq_div_pow]
theorem shr7 (x : Nat) : x >>> 7 = x / 128 := by rw [Nat.shiftRight_eq_div_pow]
theorem shr1 (x : Nat) : x >>> 1 = x / 2 := by rw [Nat.shiftRight_eq_div_pow]
theorem shl8 (x : Nat) : x <<< 8 = x * 256 := by rw [Nat.shiftLeft_eq]
theorem shl1 (x : Nat) : x <<< 1 = x * 2 := by rw [Nat.shiftLeft_eq]
theorem shl3 (x : Nat) : x <<< 3 = x * 8 := by rw [Nat.shiftLeft_eq]
theorem shl4 (x : Nat) : x <<< 4 = x * 16 := by rw [Nat.shiftLeft_eq]
theorem shl7 (x : Nat) : x <<< 7 = x * 128 := by rw [Nat.shiftLeft_eq]

export GbVerif.NatBits (and_ff and_fff and_ffff)
theorem and_0f (x : Nat) : x &&& 0x0f = x % 16 := Nat.and_two_pow_sub_one_eq_mod x 4

theorem or_lo (hi lo : Nat) (h : lo < 256) : hi * 256 ||| lo = hi * 256 + lo := by
  have := @Nat.two_pow_add_eq_or_of_lt 8 lo h hi
  rw [Nat.mul_comm] at this; exact this.symm

theorem lo_or (hi lo : Nat) (h : lo < 256) : lo ||| hi * 256 = hi * 256 + lo := by
  rw [Nat.or_comm]; exact or_lo hi lo h

/-- value of a single-bit mask -/
theorem and_pow_val (x k : Nat) : x &&& 2 ^ k = (x / 2 ^ k % 2) * 2 ^ k := by
  have hp : 0 < 2 ^ k := Nat.two_pow_pos k
  have h1 : (x &&& 2 ^ k) / 2 ^ k = x / 2 ^ k % 2 := by
    rw [Nat.and_div_two_pow, Nat.div_self hp, Nat.and_one_is_mod]
  have h2 : (x &&& 2 ^ k) % 2 ^ k = 0 := by
    rw [Nat.and_mod_two_pow, Nat.mod_self, Nat.and_zero]
  have := Nat.div_add_mod (x &&& 2 ^ k) (2 ^ k)
  rw [h1, h2, Nat.mul_comm] at this
  omega

theorem and_pow_ne (x k : Nat) : (x &&& 2 ^ k != 0) = decide (x / 2 ^ k % 2 = 1) := by
  rw [NatBits.mask_ne, Nat.testBit_eq_decide_div_mod_eq]

theorem and_pow_eq (x k : Nat) : (x &&& 2 ^ k == 0) = decide (x / 2 ^ k % 2 = 0) := by
  rw [NatBits.mask_clear, Nat.testBit_eq_decide_div_mod_eq]
  rcases Nat.mod_two_eq_zero_or_one (x / 2 ^ k) with h | h <;> simp [h]

theorem and_10_ne (x : Nat) : (x &&& 0x10 != 0) = decide (x / 16 % 2 = 1) := and_pow_ne x 4
theorem and_20_ne (x : Nat) : (x &&& 0x20 != 0) = decide (x / 32 % 2 = 1) := and_pow_ne x 5
theorem and_40_ne (x : Nat) : (x &&& 0x40 != 0) = decide (x / 64 % 2 = 1) := and_pow_ne x 6
theorem and_80_ne (x : Nat) : (x &&& 0x80 != 0) = decide (x / 128 % 2 = 1) := and_pow_ne x 7
theorem and_01_ne (x : Nat) : (x &&& 0x01 != 0) = decide (x % 2 = 1) := by
  have := and_pow_ne x 0; simpa using this
theorem and_100_ne (x : Nat) : (x &&& 0x100 != 0) = decide (x / 256 % 2 = 1) := and_pow_ne x 8
theorem and_1000_ne (x : Nat) : (x &&& 0x1000 != 0) = decide (x / 4096 % 2 = 1) := and_pow_ne x 12
theorem and_10_eq (x : Nat) : (x &&& 0x10 == 0) = decide (x / 16 % 2 = 0) := and_pow_eq x 4
theorem and_40_eq (x : Nat) : (x &&& 0x40 == 0) = decide (x / 64 % 2 = 0) := and_pow_eq x 6
theorem and_80_eq (x : Nat) : (x &&& 0x80 == 0) = decide (x / 128 % 2 = 0) := and_pow_eq x 7

theorem and_80_val (x : Nat) : x &&& 0x80 = (x / 128 % 2) * 128 := and_pow_val x 7
theorem and_10_val (x : Nat) : x &&& 0x10 = (x / 16 % 2) * 16 := and_pow_val x 4
theorem and_01_val (x : Nat) : x &&& 0x01 = x % 2 := Nat.and_one_is_mod x

/-- byte complement -/
theorem xor_ff (x : Nat) (h : x < 256) : x ^^^ 0xff = 255 - x := by
  have := forall_lt_of_allRange (fun x => x ^^^ 0xff == 255 - x) 8 (by decide +kernel) x h
  simpa using this

/-- split an AND with a 16-bit constant into its two bytes -/
theorem and_split (x K : Nat) : x &&& K = (x / 256 &&& K / 256) * 256 + (x % 256 &&& K % 256) := by
  have h1 := @Nat.and_div_two_pow x K 8
  have h2 := @Nat.and_mod_two_pow x K 8
  have := Nat.div_add_mod (x &&& K) 256
  simp only [Nat.reducePow] at h1 h2
  rw [h1, h2] at this
  omega

/-- high-byte mask of a 16-bit value -/
theorem and_ff00 (x : Nat) : x &&& 0xff00 = x / 256 % 256 * 256 := by
  rw [and_split]; simp only [Nat.reduceDiv, Nat.reduceMod, Nat.and_zero, Nat.add_zero, and_ff]

theorem lo_and (f K : Nat) (hf : f < 256) (g : Nat → Nat)
    (h : GbVerif.Enum.allRange (fun f => f &&& K == g f) 8 0 = true) : f &&& K = g f := by
  have := forall_lt_of_allRange (fun f => f &&& K == g f) 8 h f hf
  simpa using this

theorem and_mask16 (x K : Nat) (hK : K / 256 = 255) : x &&& K = x / 256 % 256 * 256 + (x % 256 &&& K % 256) := by
  rw [and_split, hK, and_ff]

/-- OR of a byte constant into the low byte of a 16-bit value -/
theorem or_low (x bits : Nat) (hb : bits < 256) : x ||| bits = x / 256 * 256 + (x % 256 ||| bits) := by
  have hx : x = x / 256 * 256 + x % 256 := by omega
  have h1 : x % 256 < 256 := Nat.mod_lt _ (by decide)
  have h2 : (x % 256 ||| bits) < 2 ^ 8 := Nat.or_lt_two_pow h1 hb
  rw [← or_lo (x / 256) (x % 256 ||| bits) h2, ← Nat.or_assoc, or_lo (x / 256) (x % 256) h1, ← hx]

/-- XOR of a byte constant into the low byte -/
theorem xor_low (x bits : Nat) (hb : bits < 256) : x ^^^ bits = x / 256 * 256 + (x % 256 ^^^ bits) := by
  have h1 := @Nat.xor_div_two_pow x bits 8
  have h2 := @Nat.xor_mod_two_pow x bits 8
  have := Nat.div_add_mod (x ^^^ bits) 256
  simp only [Nat.reducePow] at h1 h2
  rw [h1, h2, Nat.div_eq_of_lt hb, Nat.xor_zero, Nat.mod_eq_of_lt hb] at this
  omega

end GbVerif.Sm83Bits
