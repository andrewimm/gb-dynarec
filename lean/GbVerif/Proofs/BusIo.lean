import GbVerif.Proofs.BusWf
import GbVerif.Spec.BusSpec
import GbVerif.Model.Fetch
/-!
I/O-window lemmas for C10: unassigned addresses, register read-back on the defined bits, and the fetch view.
-/
namespace GbVerif.BusProofs
open GbVerif.Bus

/-- 0xFF00 | low has low byte `low` -/
theorem io_low (low : Nat) (h : low < 128) : (0xff00 + low) &&& 0xff = low := by
  rw [and_ff]; omega

/-- an I/O address no register is assigned to reads 0xff … -/
theorem getByte_unassigned (io : Io) (low : Nat) (h : low < 128) (hu : BusSpec.ioUnassigned low = true) :
    io.getByte (0xff00 + low) = 0xff := by
  unfold Io.getByte
  rw [io_low low h]
  split <;> first | rfl | (exfalso; revert hu; decide)

/-- … and ignores writes -/
theorem setByte_unassigned (io : Io) (low v : Nat) (h : low < 128) (hu : BusSpec.ioUnassigned low = true) :
    io.setByte (0xff00 + low) v = io := by
  unfold Io.setByte
  rw [io_low low h]
  split <;> first | rfl | (exfalso; revert hu; decide)

/-! The next four facts are finite by nature: kernel enumeration over the byte. -/

theorem if_readback : ∀ v, v < 256 → ((v &&& 0x1f) ||| 0xe0) &&& 0x1f = v &&& 0x1f := by decide +kernel

theorem stat_readback : ∀ v, v < 256 → ∀ mode, mode < 4 → ∀ c : Bool,
    ((if v &&& 0x40 != 0 then 0x40 else 0) ||| (if v &&& 0x20 != 0 then 0x20 else 0) |||
     (if v &&& 0x10 != 0 then 0x10 else 0) ||| (if v &&& 0x08 != 0 then 0x08 else 0) |||
     (if c then 4 else 0) ||| mode) &&& 0x78 = v &&& 0x78 := by decide +kernel

theorem p1_select_bits : ∀ v, v < 256 →
    v &&& 0x30 = (if v &&& 0x10 == 0 then 0 else 0x10) ||| (if v &&& 0x20 == 0 then 0 else 0x20) := by decide +kernel

theorem p1_value_bits : ∀ sd sa : Bool, ∀ d, d < 16 → ∀ a, a < 16 →
    (((if sa then (if sd then 0xc0 ||| 0x10 ||| d else 0xc0) ||| 0x20 ||| a else (if sd then 0xc0 ||| 0x10 ||| d else 0xc0))
      ^^^ 0xff) % 256) &&& 0x30 = (if sd then 0 else 0x10) ||| (if sa then 0 else 0x20) := by decide +kernel

theorem getValue_stepSel (j : Joypad.State) (sd sa : Bool) :
    Joypad.getValue (Joypad.stepSel j sd sa) = Joypad.getValue { j with selDirection := sd, selAction := sa } := by
  unfold Joypad.stepSel
  simp only []
  split <;> rfl

/-- P1 read-back of the two select bits (button state below 16, as the joypad model keeps it) -/
theorem p1_readback (j : Joypad.State) (v : Nat) (hv : v < 256) (hd : j.direction < 16) (ha : j.action < 16) :
    Joypad.getValue (Joypad.step j (.select v)) &&& 0x30 = v &&& 0x30 := by
  show Joypad.getValue (Joypad.stepSel j (v &&& 0x10 == 0) (v &&& 0x20 == 0)) &&& 0x30 = _
  rw [getValue_stepSel, p1_select_bits v hv]
  exact p1_value_bits (v &&& 0x10 == 0) (v &&& 0x20 == 0) j.direction hd j.action ha

theorem stepSel_buttons (j : Joypad.State) (sd sa : Bool) :
    (Joypad.stepSel j sd sa).action = j.action ∧ (Joypad.stepSel j sd sa).direction = j.direction := by
  unfold Joypad.stepSel
  simp only []
  split <;> exact ⟨rfl, rfl⟩

/-- no register write changes the button state or the LCD mode -/
theorem setByte_buttons_mode (io : Io) (a v : Nat) :
    (io.setByte a v).joy.action = io.joy.action ∧ (io.setByte a v).joy.direction = io.joy.direction ∧
    (io.setByte a v).video.mode = io.video.mode := by
  unfold Io.setByte
  split
  · exact ⟨(stepSel_buttons io.joy _ _).1, (stepSel_buttons io.joy _ _).2, rfl⟩
  all_goals exact ⟨rfl, rfl, rfl⟩

theorem fetch_rom {s : State} (wf : WF s) {a : Nat} (h : a < 0x8000) : fetchByte s a = read s a := by
  have := wf.romLen; have := wf.banks; have := getRomBank_lt s.cart wf.banks
  unfold fetchByte
  by_cases h0 : a < 0x4000
  · rw [if_pos h0, if_pos (by omega), read_rom0_wf wf h0]
  · rw [if_neg h0, if_pos h, read_romx_wf wf (by omega) h]
    show (if Cart.getRomBank s.cart * 0x4000 + 0x4000 ≤ s.romLen
      then Except.ok (s.rom ((a &&& 0x3fff) + Cart.getRomBank s.cart * 0x4000)) else _) = _
    rw [if_pos (by omega), and_3fff,
      show a % 0x4000 + Cart.getRomBank s.cart * 0x4000 = 0x4000 * Cart.getRomBank s.cart + (a - 0x4000) by omega]

theorem fetch_wram {s : State} (wf : WF s) {a : Nat} (h1 : 0xc000 ≤ a) (h2 : a < 0xe000) : fetchByte s a = read s a := by
  have := wf.wram
  unfold fetchByte
  rw [if_neg (by omega), if_neg (by omega)]
  by_cases h : a < 0xd000
  · rw [if_pos (Or.inl ⟨h1, h⟩), if_pos (by omega), read_wram0 s a h1 h]
  · rw [if_neg (by omega), if_pos (Or.inl ⟨by omega, h2⟩), read_wramx s a (by omega) h2]
    show (if 1 * 0x1000 + 0x1000 ≤ s.wram.size then rd "wramx" s.wram ((a &&& 0xfff) + 1 * 0x1000) else _) = _
    rw [if_pos (by omega), show (a &&& 0xfff) + 1 * 0x1000 = 0x1000 + (a &&& 0xfff) by omega]

theorem fetch_hram {s : State} {a : Nat} (h1 : 0xff80 ≤ a) (h2 : a < 0xffff) : fetchByte s a = read s a := by
  unfold fetchByte
  rw [if_neg (by omega), if_neg (by omega), if_neg (by omega), if_neg (by omega), if_pos ⟨h1, h2⟩,
    read_hram s a h1 (by omega)]

end GbVerif.BusProofs
