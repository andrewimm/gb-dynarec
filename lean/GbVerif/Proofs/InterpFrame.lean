import GbVerif.Model.Cpu
import GbVerif.Proofs.BusBasic
/-!
`Returns`, the form in which facts about `run_op` are proved by one walk over the 90 `Op` variants, and the first such
fact, the frame lemma of the interpreter model: the bus state changes only through `B.write`, so any predicate on the
bus that every successful write preserves is preserved by `run_op`.
-/
namespace GbVerif.CoreProofs
open GbVerif.Interp

/-- `x` satisfies `Q` whenever it returns.  Statements about `run_op` are proved in this form, one rule per construct of
the `Except` monad, so that a walk over the `Op` constructors never has to take a hypothesis `… = .ok _` apart -/
def Returns {ε α : Type} (x : Except ε α) (Q : α → Prop) : Prop := ∀ a, x = .ok a → Q a

theorem Returns.ok {ε α : Type} {Q : α → Prop} {a : α} (h : Q a) : Returns (.ok a : Except ε α) Q :=
  fun _ e => Except.ok.inj e ▸ h

theorem Returns.pure {ε α : Type} {Q : α → Prop} {a : α} (h : Q a) : Returns (pure a : Except ε α) Q := Returns.ok h

theorem Returns.error {ε α : Type} {Q : α → Prop} {e : ε} : Returns (.error e : Except ε α) Q :=
  fun _ h => nomatch h

theorem Returns.bind {ε α β : Type} {x : Except ε α} {f : α → Except ε β} {Q : β → Prop}
    (h : ∀ a, x = .ok a → Returns (f a) Q) : Returns (x >>= f) Q := by
  intro b hb
  obtain ⟨a, ha, hb⟩ := bind_ok_elim hb
  exact h a ha b hb

theorem Returns.bind_of {ε α β : Type} {x : Except ε α} {f : α → Except ε β} {S : α → Prop} {Q : β → Prop}
    (hx : Returns x S) (h : ∀ a, S a → Returns (f a) Q) : Returns (x >>= f) Q :=
  Returns.bind fun a ha => h a (hx a ha)

theorem Returns.ite {ε α : Type} {c : Prop} [Decidable c] {x y : Except ε α} {Q : α → Prop}
    (hx : Returns x Q) (hy : Returns y Q) : Returns (if c then x else y) Q := by
  split <;> assumption

variable {β : Type} (B : BusOps β)

section
variable (P : β → Prop) (hw : ∀ m a v m', B.write m a v = .ok m' → P m → P m')
include hw

theorem push_inv {v : Nat} {r : Regs} {m : β} (hp : P m) : Returns (push B v r m) (fun p => P p.2) :=
  Returns.bind fun _ h1 => Returns.bind fun _ h2 => Returns.pure (hw _ _ _ _ h2 (hw _ _ _ _ h1 hp))

theorem rmwHL_inv {r : Regs} {m : β} {f : Nat → Regs → Nat × Regs} (hp : P m) : Returns (rmwHL B r m f) (fun p => P p.2) :=
  Returns.bind fun _ _ => Returns.bind fun _ h1 => Returns.pure (hw _ _ _ _ h1 hp)

theorem runOp_inv (op : Op) (r : Regs) (m : β) (len : Nat) (r' : Regs) (m' : β) (st : Nat)
    (h : runOp B op r m len = .ok (r', m', st)) (hp : P m) : P m' := by
  suffices Returns (runOp B op r m len) (fun x => P x.2.1) from this _ h
  cases op
  all_goals dsimp only [runOp]
  all_goals with_reducible repeat' (first
    | apply Returns.ite | apply Returns.ok | apply Returns.pure | exact Returns.error | (apply Returns.bind; intro _ _))
  all_goals first
    | exact hp
    | exact hw _ _ _ _ ‹_› hp
    | exact hw _ _ _ _ ‹_› (hw _ _ _ _ ‹_› hp)
    | exact push_inv B P hw hp _ ‹_›
    | exact rmwHL_inv B P hw hp _ ‹_›
end

/-! ### through an instruction and a block of the real bus -/

section cpu
variable {P : Bus.State → Prop} (hw : ∀ {s s' : Bus.State} {a v : Nat}, Bus.write s a v = .ok s' → P s → P s')
include hw

theorem runNextOp_inv {r r' : Regs} {s s' : Bus.State} {st : Nat} {e : Bool}
    (h : Cpu.runNextOp r s = .ok (r', s', st, e)) (hp : P s) : P s' := by
  unfold Cpu.runNextOp at h
  obtain ⟨⟨b0, b1, b2⟩, _, h⟩ := bind_ok_elim h
  simp only [] at h
  generalize Gen.decode b0 b1 b2 = d at h
  obtain ⟨op, len, clocks⟩ := d
  simp only [] at h
  obtain ⟨⟨r1, s1, st1⟩, h1, h⟩ := bind_ok_elim h
  injection h with h; injection h with h2 h3; injection h3 with h3 h4; subst h3
  exact runOp_inv Cpu.busOps P (fun _ _ _ _ => hw) op r s len r1 s1 st1 h1 hp

theorem runCodeBlockAux_inv (start : Nat) : ∀ (fuel : Nat) {r r' : Regs} {s s' : Bus.State} {st st' : Nat},
    Cpu.runCodeBlockAux start r s st fuel = .ok (r', s', st') → P s → P s' := by
  intro fuel
  induction fuel with
  | zero => intro r r' s s' st st' h; cases h
  | succ n ih =>
    intro r r' s s' st st' h hp
    rw [Cpu.runCodeBlockAux] at h
    split at h
    · injection h with h; injection h with h1 h2; injection h2 with h2 h3; subst h2; exact hp
    · obtain ⟨⟨r1, s1, st1, stop⟩, h1, h⟩ := bind_ok_elim h
      have hp1 := runNextOp_inv hw h1 hp
      simp only [] at h
      split at h
      · injection h with h; injection h with h2 h3; injection h3 with h3 h4; subst h3; exact hp1
      · exact ih h hp1

end cpu

end GbVerif.CoreProofs
