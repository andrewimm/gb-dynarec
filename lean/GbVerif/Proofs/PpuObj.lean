import GbVerif.Proofs.PpuBits
import GbVerif.Proofs.TimerBits
/-!
C15 stage (ii), model side: what `find_current_line_sprites` leaves in the object line cache.
`drawObj` (8-pixel copy) → `sweepObjs` (one `line_x`) → `sweep` (all `line_x`, with the early
exit) → cell-wise "first writer wins" → the first writer is, among the objects with an opaque pixel at
the cell, the first in the list of those with the least X.
-/
namespace GbVerif.PpuObj
open GbVerif.Ppu GbVerif.FrameSpec GbVerif.PpuBits GbVerif.NatBits

/-- an array seen as the spec's memory function -/
def mem (a : Array Nat) : Mem := fun i => a.getD i 0

theorem rd_ok (a : Array Nat) (i : Nat) (h : i < a.size) : rd a i = .ok (mem a i) := by
  simp [rd, mem, Array.getD, h]

theorem wr_ok (a : Array Nat) (i v : Nat) (h : i < a.size) : wr a i v = .ok (a.set! i v) := by
  simp [wr, h]

theorem mem_setIfInBounds (a : Array Nat) (i v j : Nat) :
    mem (a.setIfInBounds i v) j = if j = i ∧ i < a.size then v else mem a j := by
  unfold mem
  rw [Array.getD_eq_getD_getElem?, Array.getD_eq_getD_getElem?, Array.getElem?_setIfInBounds]
  by_cases hji : j = i
  · subst hji; by_cases h : j < a.size <;> simp [h]
  · have : ¬ i = j := fun e => hji e.symm
    simp [this, hji]

theorem mem_set! (a : Array Nat) (i v j : Nat) (h : i < a.size) :
    mem (a.set! i v) j = if j = i then v else mem a j := by
  rw [Array.set!_eq_setIfInBounds, mem_setIfInBounds]; simp only [h, and_true]

theorem size_set! (a : Array Nat) (i v : Nat) : (a.set! i v).size = a.size := by
  rw [Array.set!_eq_setIfInBounds, Array.size_setIfInBounds]

theorem mem_replicate (n v c : Nat) : mem (Array.replicate n v) c = if c < n then v else 0 := by
  unfold mem
  rw [Array.getD_eq_getD_getElem?, Array.getElem?_replicate]
  split <;> rfl

theorem mem_replicate_zero (n c : Nat) : mem (Array.replicate n 0) c = 0 := by
  rw [mem_replicate]; exact ite_self _

theorem size_condSet (a : Array Nat) (b : Bool) (i w : Nat) : (if b then a.set! i w else a).size = a.size := by
  cases b
  · rfl
  · exact size_set! a i w

/-- a conditional write, cell by cell -/
theorem mem_condSet (a : Array Nat) (b : Bool) (i w j : Nat) (h : i < a.size) :
    mem (if b then a.set! i w else a) j = if j = i then (if b then w else mem a i) else mem a j := by
  cases b
  · simp only [Bool.false_eq_true, if_false]
    split
    · next e => rw [e]
    · rfl
  · exact mem_set! a i w j h

theorem and7 (x : Nat) : x &&& 7 = x % 8 := Nat.and_two_pow_sub_one_eq_mod x 3

theorem shr14_and3 (v : Nat) (h : v < 65536) : (v >>> 14) &&& 3 = v / 16384 := by
  rw [TimerBits.and_3, Nat.shiftRight_eq_div_pow]; exact Nat.mod_eq_of_lt (Nat.div_lt_of_lt_mul h)

theorem topTwo (v : Nat) (h : v < 65536) : (v &&& 0xc000) >>> 14 = v / 16384 := by
  rw [Nat.shiftRight_and_distrib]; exact shr14_and3 v h

theorem shl_step (row k : Nat) : (((row <<< (2 * k)) % 65536) <<< 2) % 65536 = (row <<< (2 * (k + 1))) % 65536 := by
  rw [Nat.shiftLeft_eq, Nat.shiftLeft_eq, Nat.shiftLeft_eq, Nat.mod_mul_mod]
  have : 2 * (k + 1) = 2 * k + 2 := by omega
  rw [this, Nat.pow_add, Nat.mul_assoc]

/-- colour index object `o` has at cache index `c` (0: not covering, or transparent) -/
def pixAt (o : Obj) (c : Nat) : Nat :=
  if o.xCoord ≤ c ∧ c < o.xCoord + 8 then shiftedOut o.rowData (c - o.xCoord) else 0

/-- the byte the sweep writes for object `o` at cell `c` -/
def objByte (o : Obj) (c : Nat) : Nat :=
  0x80 ||| (if o.hasPriority then 0x40 else 0) ||| ((o.palette <<< 2) % 256) ||| pixAt o c

/-- effect of drawing `o` on the value `v` of cell `c`: written only if not yet `present` -/
def cellStep (c : Nat) (v : Nat) (o : Obj) : Nat :=
  if (v &&& 0x80 == 0) && (pixAt o c != 0) then objByte o c else v

theorem cellStep_outside (c v : Nat) (o : Obj) (h : ¬ (o.xCoord ≤ c ∧ c < o.xCoord + 8)) : cellStep c v o = v := by
  unfold cellStep pixAt
  rw [if_neg h, show ((0:Nat) != 0) = false from rfl, Bool.and_false]; rfl

theorem objByte_present (o : Obj) (c : Nat) : (objByte o c &&& 0x80 == 0) = false := by
  rw [mask_clear _ 7]
  simp only [objByte, Nat.testBit_or]
  have : (0x80 : Nat).testBit 7 = true := by decide
  simp [this]

theorem ok_bind {α β : Type} (a : α) (f : α → Except Panic β) : (Except.ok a >>= f) = f a := rfl

/-- the guarded write of the copy loop, followed by the rest of the loop -/
theorem condWr_bind {β : Type} (a : Array Nat) (b1 b2 : Bool) (i w : Nat) (h : i < a.size) (k : Array Nat → Except Panic β) :
    (if b1 then (if b2 then wr a i w >>= k else pure a >>= k) else pure a >>= k) =
      k (if b1 && b2 then a.set! i w else a) := by
  cases b1
  · cases b2 <;> rfl
  · cases b2
    · rfl
    · rw [wr_ok a i w h]; rfl

theorem colorIndex_eq (pd : Nat) (h : pd < 65536) : ((pd >>> 14) &&& 3) % 256 = pd / 16384 := by
  rw [shr14_and3 pd h]; exact Nat.mod_eq_of_lt (Nat.lt_trans (Nat.div_lt_of_lt_mul (k := 4) h) (by decide))

theorem pixAt_own (o : Obj) (k : Nat) (hk : k < 8) : pixAt o (o.xCoord + k) = shiftedOut o.rowData k := by
  rw [pixAt, if_pos ⟨Nat.le_add_right _ _, Nat.add_lt_add_left hk _⟩, Nat.add_sub_cancel_left]

/-- the copy loop from pixel `k` of the object on: the cells before it are untouched, the others take
one `cellStep` -/
theorem drawObj_spec (o : Obj) :
    ∀ (n k : Nat) (cache : Array Nat), k + n = 8 → o.xCoord + 8 ≤ cache.size →
      ∃ cache', drawObj o o.xCoord n ((o.rowData <<< (2 * k)) % 65536) cache = .ok cache' ∧ cache'.size = cache.size ∧
        (∀ c, c < o.xCoord + k → mem cache' c = mem cache c) ∧
        ∀ c, o.xCoord + k ≤ c → mem cache' c = cellStep c (mem cache c) o := by
  intro n
  induction n with
  | zero =>
    intro k cache hk hs
    cases hk
    exact ⟨cache, rfl, rfl, fun _ _ => rfl, fun c hc => (cellStep_outside c _ o fun h => Nat.not_lt.mpr hc h.2).symm⟩
  | succ n ih =>
    intro k cache hk hs
    have ⟨hoff, hk8⟩ : 7 - n = k ∧ k < 8 := by omega
    have hlt : o.xCoord + k < cache.size := Nat.lt_of_lt_of_le (Nat.add_lt_add_left hk8 _) hs
    rw [drawObj, hoff, rd_ok _ _ hlt]
    simp only [ok_bind]
    rw [condWr_bind _ _ _ _ _ hlt, colorIndex_eq _ (Nat.mod_lt _ (by decide)), shl_step]
    refine (ih (k + 1) _ (by omega) ?_).imp fun cache' h => ⟨h.1, ?_, fun c hc => ?_, fun c hc => ?_⟩
    · rw [size_condSet]; exact hs
    · rw [h.2.1, size_condSet]
    · rw [h.2.2.1 c (Nat.lt_succ_of_lt hc), mem_condSet _ _ _ _ _ hlt, if_neg (Nat.ne_of_lt hc)]
    · rcases Nat.eq_or_lt_of_le hc with e | l
      · rw [h.2.2.1 c (e ▸ Nat.lt_succ_self _), mem_condSet _ _ _ _ _ hlt, if_pos e.symm, ← e, cellStep, objByte, pixAt_own o k hk8]
        rfl
      · rw [h.2.2.2 c l, mem_condSet _ _ _ _ _ hlt, if_neg (Nat.ne_of_gt l)]

/-- drawing object `o` at its own X: every cell takes one `cellStep` -/
theorem drawObj_cells (o : Obj) (hrow : o.rowData < 65536) (cache : Array Nat) (hs : o.xCoord + 8 ≤ cache.size) :
    ∃ cache', drawObj o o.xCoord 8 o.rowData cache = .ok cache' ∧ cache'.size = cache.size ∧
      ∀ c, mem cache' c = cellStep c (mem cache c) o := by
  obtain ⟨cache', h1, h2, h3, h4⟩ := drawObj_spec o 8 0 cache rfl hs
  rw [Nat.mul_zero, Nat.shiftLeft_zero, Nat.mod_eq_of_lt hrow] at h1
  refine ⟨cache', h1, h2, fun c => ?_⟩
  by_cases hc : o.xCoord ≤ c
  · exact h4 c hc
  · rw [h3 c (Nat.lt_of_not_le hc), cellStep_outside c _ o fun h => hc h.1]

/-- working set when `line_x = L` is reached: the objects that start before `L` have been taken out -/
def curAt (objs : List Obj) (L : Nat) : List (Option Obj) :=
  objs.map fun o => if o.xCoord < L then none else some o

/-- number of objects drawn before `line_x = L` -/
def cntAt (objs : List Obj) (L : Nat) : Nat := objs.countP fun o => decide (o.xCoord < L)

def startsAt (L : Nat) (o : Obj) : Bool := o.xCoord == L

theorem curAt_cons (o : Obj) (r : List Obj) (L : Nat) :
    curAt (o :: r) L = (if o.xCoord < L then none else some o) :: curAt r L := rfl

theorem cntAt_cons (o : Obj) (r : List Obj) (L : Nat) :
    cntAt (o :: r) L = cntAt r L + if o.xCoord < L then 1 else 0 := by
  unfold cntAt; rw [List.countP_cons]; simp only [decide_eq_true_eq]

/-- one `line_x`: the objects that start at `L` are drawn in list order, taken out and counted -/
theorem sweepObjs_spec (L : Nat) : ∀ (objs : List Obj) (cache : Array Nat) (d : Nat),
    (∀ o ∈ objs, o.rowData < 65536) → L + 8 ≤ cache.size →
    ∃ cache', sweepObjs L (curAt objs L) cache (cntAt objs L + d) =
        .ok (curAt objs (L + 1), cache', cntAt objs (L + 1) + d) ∧ cache'.size = cache.size ∧
      ∀ c, mem cache' c = (objs.filter (startsAt L)).foldl (cellStep c) (mem cache c) := by
  intro objs
  induction objs with
  | nil => intro cache d _ _; exact ⟨cache, rfl, rfl, fun _ => rfl⟩
  | cons o r ih =>
    intro cache d hrow hs
    have hrow' : ∀ o ∈ r, o.rowData < 65536 := fun o ho => hrow o (List.mem_cons_of_mem _ ho)
    rw [curAt_cons, curAt_cons, cntAt_cons, cntAt_cons, List.filter_cons, startsAt]
    rcases Nat.lt_trichotomy o.xCoord L with h | h | h
    · -- taken out earlier
      obtain ⟨cache', h1, h2, h3⟩ := ih cache (1 + d) hrow' hs
      refine ⟨cache', ?_, h2, ?_⟩
      · simp only [if_pos h, if_pos (Nat.lt_succ_of_lt h), Nat.add_assoc, sweepObjs, h1]; rfl
      · rw [beq_eq_false_iff_ne.mpr (Nat.ne_of_lt h)]; exact h3
    · -- drawn now
      obtain ⟨cache1, g1, g2, g3⟩ := drawObj_cells o (hrow o (List.mem_cons_self ..)) cache (h ▸ hs)
      obtain ⟨cache', h1, h2, h3⟩ := ih cache1 (d + 1) hrow' (g2 ▸ hs)
      refine ⟨cache', ?_, h2.trans g2, fun c => ?_⟩
      · rw [h] at g1
        simp only [h, Nat.lt_irrefl, Nat.lt_succ_self, if_true, if_false, Nat.add_zero, sweepObjs, bne_self_eq_false,
          Bool.false_eq_true, g1, ok_bind, Nat.add_assoc, h1, Nat.add_comm 1 d]; rfl
      · rw [beq_iff_eq.mpr h, if_pos rfl, List.foldl_cons, h3 c, g3 c]
    · -- still waiting
      obtain ⟨cache', h1, h2, h3⟩ := ih cache d hrow' hs
      refine ⟨cache', ?_, h2, ?_⟩
      · simp only [if_neg (Nat.lt_asymm h), if_neg (Nat.not_lt.mpr h), Nat.add_zero, sweepObjs,
          bne_iff_ne.mpr (Nat.ne_of_gt h), if_true, h1]; rfl
      · rw [beq_eq_false_iff_ne.mpr (Nat.ne_of_gt h)]; exact h3

/-- the order in which the sweep draws: by `line_x`, within one `line_x` in list order -/
def order (objs : List Obj) (L n : Nat) : List Obj :=
  (List.range' L n).flatMap fun L' => objs.filter (startsAt L')

theorem sweep_spec (objs : List Obj) (hrow : ∀ o ∈ objs, o.rowData < 65536) :
    ∀ (fuel L : Nat) (cache : Array Nat), L + fuel = 168 → cache.size = 176 →
      ∃ cache', sweep objs.length fuel L (curAt objs L) cache (cntAt objs L) = .ok cache' ∧ cache'.size = 176 ∧
        ∀ c, mem cache' c = (order objs L fuel).foldl (cellStep c) (mem cache c) := by
  intro fuel
  induction fuel with
  | zero => intro L cache _ hs; exact ⟨cache, rfl, hs, fun _ => rfl⟩
  | succ fuel ih =>
    intro L cache hL hs
    rw [sweep]
    by_cases hd : cntAt objs L < objs.length
    · have ⟨a, b, c⟩ : L + 8 ≤ cache.size ∧ L + 1 + fuel = 168 ∧ L < 168 := by omega
      obtain ⟨cache1, (g1 : sweepObjs L _ cache (cntAt objs L) = .ok (_, _, cntAt objs (L + 1))), g2, g3⟩ :=
        sweepObjs_spec L objs cache 0 hrow a
      obtain ⟨cache', h1, h2, h3⟩ := ih (L + 1) cache1 b (g2.trans hs)
      refine ⟨cache', ?_, h2, fun c => ?_⟩
      · rw [if_pos ⟨c, hd⟩, g1]; exact h1
      · rw [h3 c, g3 c, order, order, List.range'_succ, List.flatMap_cons, List.foldl_append]
    · refine ⟨cache, if_neg fun h => hd h.2, hs, fun c => ?_⟩
      -- every object starts before `L`: nothing is left to draw
      have hall := List.countP_eq_length.mp (Nat.le_antisymm List.countP_le_length (Nat.le_of_not_lt hd))
      have : order objs L (fuel + 1) = [] := by
        rw [order, List.flatMap_eq_nil_iff]
        intro L' hL'
        rw [List.filter_eq_nil_iff]
        intro o ho hs
        have h1 := of_decide_eq_true (hall o ho)
        have h2 := (List.mem_range'_1.mp hL').1
        rw [startsAt, beq_iff_eq] at hs
        omega
      rw [this]; rfl

/-! ### one cell: the first writer wins -/

def opaqueAt (c : Nat) (o : Obj) : Bool := pixAt o c != 0

theorem cellStep_eq (c v : Nat) (o : Obj) :
    cellStep c v o = if ((v &&& 0x80 == 0) && opaqueAt c o) = true then objByte o c else v := rfl

theorem cellFold_present (c : Nat) (P : List Obj) (v : Nat) (hv : (v &&& 0x80 == 0) = false) :
    P.foldl (cellStep c) v = v := by
  induction P with
  | nil => rfl
  | cons o r ih => rw [List.foldl_cons, cellStep_eq, hv, Bool.false_and, if_neg Bool.false_ne_true, ih]

theorem cellFold_spec (c : Nat) (P : List Obj) (v : Nat) (hv : (v &&& 0x80 == 0) = true) :
    P.foldl (cellStep c) v = match P.find? (opaqueAt c) with
      | none => v
      | some o => objByte o c := by
  induction P with
  | nil => rfl
  | cons o r ih =>
    rw [List.foldl_cons, List.find?_cons, cellStep_eq, hv, Bool.true_and]
    cases opaqueAt c o
    · rw [if_neg Bool.false_ne_true]; exact ih
    · rw [if_pos rfl]; exact cellFold_present c r _ (objByte_present o c)

/-! ### the first writer is the first, in list order, of the opaque objects with the least X -/

/-- state of the search for the first `p` in `order objs 0 N`: nothing with X below `N`, or the first among
the objects of its X, which is the least X -/
def Found (objs : List Obj) (p : Obj → Bool) (N : Nat) : Option Obj → Prop
  | none => ∀ o ∈ objs, o.xCoord < N → p o = false
  | some o => objs.find? (fun o' => decide (startsAt o.xCoord o' = true ∧ p o' = true)) = some o ∧ o.xCoord < N ∧
      ∀ o' ∈ objs, p o' = true → o.xCoord ≤ o'.xCoord

theorem order_found (objs : List Obj) (p : Obj → Bool) : ∀ N, Found objs p N ((order objs 0 N).find? p)
  | 0 => fun o _ h => absurd h (Nat.not_lt_zero _)
  | N + 1 => by
    have ih := order_found objs p N
    have e : order objs 0 (N + 1) = order objs 0 N ++ objs.filter (startsAt N) := by
      simp only [order, List.range'_concat, List.flatMap_append, List.flatMap_singleton]
      simp
    rw [e, List.find?_append]
    cases hf : (order objs 0 N).find? p with
    | some o => rw [hf] at ih; exact ⟨ih.1, Nat.lt_succ_of_lt ih.2.1, ih.2.2⟩
    | none =>
      rw [hf] at ih
      rw [Option.none_or, List.find?_filter]
      cases hg : objs.find? (fun o => decide (startsAt N o = true ∧ p o = true)) with
      | none =>
        intro o ho hx
        rcases Nat.lt_or_eq_of_le (Nat.le_of_lt_succ hx) with h | h
        · exact ih o ho h
        · have := of_decide_eq_false (Bool.not_eq_true _ ▸ List.find?_eq_none.mp hg o ho)
          exact Bool.eq_false_iff.mpr fun hp => this ⟨beq_iff_eq.mpr h, hp⟩
      | some o =>
        have ho := List.find?_some hg
        have hx : o.xCoord = N := beq_iff_eq.mp (of_decide_eq_true ho).1
        refine ⟨hx ▸ hg, hx ▸ Nat.lt_succ_self _, fun o' ho' hp' => ?_⟩
        rw [hx]
        exact Nat.le_of_not_lt fun h => by rw [ih o' ho' h] at hp'; cases hp'

/-- the first `p` in drawing order is the first, in list order, of the `p` with the least X -/
theorem order_find (objs : List Obj) (p : Obj → Bool) (N : Nat) (hN : ∀ o ∈ objs, p o = true → o.xCoord < N) :
    (order objs 0 N).find? p =
      objs.find? fun o => p o && objs.all fun o' => !p o' || decide (o.xCoord ≤ o'.xCoord) := by
  have h := order_found objs p N
  cases hf : (order objs 0 N).find? p with
  | none =>
    rw [hf] at h
    refine (List.find?_eq_none.mpr fun o ho hb => ?_).symm
    rw [Bool.and_eq_true] at hb
    exact Bool.false_ne_true ((h o ho (hN o ho hb.1)).symm.trans hb.1)
  | some o =>
    rw [hf] at h
    obtain ⟨h1, _, h3⟩ := h
    obtain ⟨hpo, as, bs, e, hbefore⟩ := List.find?_eq_some_iff_append.mp h1
    have hpo := (of_decide_eq_true hpo).2
    have hmem : o ∈ objs := e ▸ List.mem_append_right _ List.mem_cons_self
    refine (List.find?_eq_some_iff_append.mpr ⟨?_, as, bs, e, fun o' ho' => ?_⟩).symm
    · rw [Bool.and_eq_true, List.all_eq_true]
      refine ⟨hpo, fun o' ho' => ?_⟩
      cases hp' : p o'
      · rfl
      · exact decide_eq_true (h3 o' ho' hp')
    · rw [Bool.not_eq_true', Bool.and_eq_false_iff]
      cases hp' : p o'
      · exact Or.inl rfl
      · refine Or.inr (List.all_eq_false.mpr ⟨o, hmem, ?_⟩)
        have hb := of_decide_eq_false (Bool.not_eq_true' _ ▸ hbefore o' ho')
        have := h3 o' (e ▸ List.mem_append_left _ ho') hp'
        rw [hpo, Bool.not_true, Bool.false_or]
        exact fun hle => hb ⟨beq_iff_eq.mpr (Nat.le_antisymm (of_decide_eq_true hle) this), hp'⟩

/-- what `sweep` leaves in cell `c < 168` of a clean cache: 0 if no object has an opaque pixel there, otherwise the
byte of the first object in the list among those that have one at the least X -/
theorem sweep_winner (objs : List Obj) (hrow : ∀ o ∈ objs, o.rowData < 65536) :
    ∃ cache', sweep objs.length 168 0 (objs.map some) (Array.replicate 176 0) 0 = .ok cache' ∧ cache'.size = 176 ∧
      ∀ c, c < 168 → mem cache' c =
        match objs.find? fun o => opaqueAt c o && objs.all fun o' => !opaqueAt c o' || decide (o.xCoord ≤ o'.xCoord) with
        | none => 0
        | some o => objByte o c := by
  obtain ⟨cache', h1, h2, h3⟩ := sweep_spec objs hrow 168 0 (Array.replicate 176 0) rfl (by simp)
  have e1 : curAt objs 0 = objs.map some := by simp [curAt]
  have e2 : cntAt objs 0 = 0 := by simp [cntAt]
  rw [e1, e2] at h1
  refine ⟨cache', h1, h2, fun c hc => ?_⟩
  rw [h3 c, mem_replicate_zero, cellFold_spec c _ 0 (by decide), order_find]
  -- an opaque pixel at `c < 168` belongs to an object with X ≤ c
  intro o _ hop
  rw [opaqueAt, pixAt] at hop
  split at hop
  · omega
  · cases hop

end GbVerif.PpuObj
