import GbVerif.Model.Cpu
import GbVerif.Spec.SM83
import GbVerif.Proofs.Sm83Bits
/-!
Abstraction between the interpreter's register file (`Interp.Regs`: AF/BC/DE/HL/SP/IP as u32 fields) and the
SM83 architectural state (`SM83.Cpu`: A F B C D E H L SP PC), and the register-file / flag-helper lemmas:
every accessor and flag helper of the interpreter, run on the concretisation of an SM83 state, is the
concretisation of the corresponding SM83 update.
-/
namespace GbVerif.C05
open GbVerif.Interp GbVerif.Sm83Bits
open GbVerif.SM83 (Cpu mkF flagZ flagN flagH flagC)

/-- well-formed register file: every pair is a 16-bit value and the low nibble of F is zero -/
def WF (r : Regs) : Prop :=
  r.af < 65536 ∧ r.af % 16 = 0 ∧ r.bc < 65536 ∧ r.de < 65536 ∧ r.hl < 65536 ∧ r.sp < 65536 ∧ r.ip < 65536

/-- the SM83 view of the interpreter's registers -/
def abs (r : Regs) : Cpu :=
  { a := r.af / 256 % 256, f := r.af % 256, b := r.bc / 256 % 256, c := r.bc % 256, d := r.de / 256 % 256, e := r.de % 256,
    h := r.hl / 256 % 256, l := r.hl % 256, sp := r.sp, pc := r.ip }

/-- the interpreter register file holding an SM83 state (and a cycle counter) -/
def conc (c : Cpu) (k : Nat) : Regs :=
  { af := c.a * 256 + c.f, bc := c.b * 256 + c.c, de := c.d * 256 + c.e, hl := c.h * 256 + c.l, sp := c.sp, ip := c.pc, cycles := k }

/-- well-formed SM83 state: byte registers are bytes, F has a zero low nibble, SP and PC are 16-bit -/
structure CWF (c : Cpu) : Prop where
  ha : c.a < 256
  hf : c.f < 256
  hf0 : c.f % 16 = 0
  hb : c.b < 256
  hc : c.c < 256
  hd : c.d < 256
  he : c.e < 256
  hh : c.h < 256
  hl : c.l < 256
  hsp : c.sp < 65536
  hpc : c.pc < 65536

theorem mod256_lt (x : Nat) : x % 256 < 256 := Nat.mod_lt _ (by decide)

/-- the two bytes of a pair -/
theorem hi_lo (hi lo : Nat) (h : lo < 256) : (hi * 256 + lo) / 256 = hi ∧ (hi * 256 + lo) % 256 = lo := by omega

theorem split16 (x : Nat) (h : x < 65536) : x / 256 % 256 * 256 + x % 256 = x := by omega

theorem abs_conc {c : Cpu} (hc : CWF c) (k : Nat) : abs (conc c k) = c := by
  obtain ⟨ha, hf, _, hb, hc', hd, he, hh, hl, _, _⟩ := hc
  cases c
  simp only [abs, conc, hi_lo _ _ hf, hi_lo _ _ hc', hi_lo _ _ he, hi_lo _ _ hl, Nat.mod_eq_of_lt ha, Nat.mod_eq_of_lt hb,
    Nat.mod_eq_of_lt hd, Nat.mod_eq_of_lt hh]

theorem wf_conc {c : Cpu} (hc : CWF c) (k : Nat) : WF (conc c k) := by
  obtain ⟨ha, hf, hf0, hb, hc', hd, he, hh, hl, hsp, hpc⟩ := hc
  simp only [WF, conc]
  refine ⟨?_, ?_, ?_, ?_, ?_, hsp, hpc⟩ <;> omega

theorem cwf_abs {r : Regs} (hr : WF r) : CWF (abs r) := by
  obtain ⟨h1, h2, h3, h4, h5, h6, h7⟩ := hr
  constructor <;> simp only [abs] <;> omega

theorem conc_abs {r : Regs} (hr : WF r) : conc (abs r) r.cycles = r := by
  obtain ⟨h1, _, h3, h4, h5, _, _⟩ := hr
  cases r
  simp only [abs, conc, split16 _ h1, split16 _ h3, split16 _ h4, split16 _ h5]

@[simp] theorem conc_cycles (c : Cpu) (k : Nat) : (conc c k).cycles = k := rfl
@[simp] theorem conc_ip (c : Cpu) (k : Nat) : (conc c k).ip = c.pc := rfl
@[simp] theorem conc_af (c : Cpu) (k : Nat) : (conc c k).af = c.a * 256 + c.f := rfl

/-- the SM83 register index `r[z]` of the interpreter's `Register8` -/
def idx : Reg8 → Nat
  | .B => 0 | .C => 1 | .D => 2 | .E => 3 | .H => 4 | .L => 5 | .A => 7

theorem getHi_pair (hi lo : Nat) (h1 : hi < 256) (h2 : lo < 256) : getHi (hi * 256 + lo) = hi := by
  simp only [getHi, shr8]; omega
theorem getLo_pair (hi lo : Nat) (h2 : lo < 256) : getLo (hi * 256 + lo) = lo := by
  simp only [getLo]; omega
theorem setHi_pair (hi lo v : Nat) (h2 : lo < 256) : setHi (hi * 256 + lo) v = v * 256 + lo := by
  simp only [setHi, and_ff, shl8]
  rw [lo_or _ _ (Nat.mod_lt _ (by decide))]; omega
theorem setLo_pair (hi lo v : Nat) (h1 : hi < 256) (h2 : lo < 256) (hv : v < 256) : setLo (hi * 256 + lo) v = hi * 256 + v := by
  simp only [setLo, and_ff00]
  rw [or_lo _ _ hv]; omega

theorem getReg_conc {c : Cpu} (hc : CWF c) (k : Nat) (reg : Reg8) : getReg (conc c k) reg = SM83.getR c (idx reg) := by
  cases reg
  · exact getHi_pair _ _ hc.ha hc.hf
  · exact getHi_pair _ _ hc.hb hc.hc
  · exact getLo_pair _ _ hc.hc
  · exact getHi_pair _ _ hc.hd hc.he
  · exact getLo_pair _ _ hc.he
  · exact getHi_pair _ _ hc.hh hc.hl
  · exact getLo_pair _ _ hc.hl

theorem getR_lt {c : Cpu} (hc : CWF c) (i : Nat) : SM83.getR c i < 256 := by
  cases hc
  unfold SM83.getR; split <;> assumption

theorem setReg_conc {c : Cpu} (hc : CWF c) (k : Nat) (reg : Reg8) (v : Nat) (hv : v < 256) :
    setReg (conc c k) reg v = conc (SM83.setR c (idx reg) v) k := by
  cases reg <;> simp only [setReg, conc, idx, SM83.setR, Regs.mk.injEq, true_and, and_true]
  · exact setHi_pair _ _ _ hc.hf
  · exact setHi_pair _ _ _ hc.hc
  · exact setLo_pair _ _ _ hc.hb hc.hc hv
  · exact setHi_pair _ _ _ hc.he
  · exact setLo_pair _ _ _ hc.hd hc.he hv
  · exact setHi_pair _ _ _ hc.hl
  · exact setLo_pair _ _ _ hc.hh hc.hl hv

theorem cwf_setA {c : Cpu} (hc : CWF c) (v : Nat) (hv : v < 256) : CWF { c with a := v } := { hc with ha := hv }

theorem cwf_setR {c : Cpu} (hc : CWF c) (i v : Nat) (hv : v < 256) : CWF (SM83.setR c i v) := by
  unfold SM83.setR; split
  · exact { hc with hb := hv }
  · exact { hc with hc := hv }
  · exact { hc with hd := hv }
  · exact { hc with he := hv }
  · exact { hc with hh := hv }
  · exact { hc with hl := hv }
  · exact cwf_setA hc v hv

theorem getA_conc {c : Cpu} (hc : CWF c) (k : Nat) : getReg (conc c k) .A = c.a := getReg_conc hc k .A

theorem setA_conc {c : Cpu} (hc : CWF c) (k v : Nat) (hv : v < 256) : setReg (conc c k) .A v = conc { c with a := v } k :=
  setReg_conc hc k .A v hv

theorem mkF_lt : ∀ z n h c, mkF z n h c < 256 := by decide
theorem mkF_mod : ∀ z n h c, mkF z n h c % 16 = 0 := by decide

theorem cwf_setF {c : Cpu} (hc : CWF c) (f : Nat) (h1 : f < 256) (h2 : f % 16 = 0) : CWF { c with f := f } :=
  { hc with hf := h1, hf0 := h2 }

theorem cwf_mkF {c : Cpu} (hc : CWF c) (z n h cy : Bool) : CWF { c with f := mkF z n h cy } :=
  cwf_setF hc _ (mkF_lt ..) (mkF_mod ..)

/-- every well-formed F is `mkF` of its four flags -/
theorem f_eq_mkF (f : Nat) (h1 : f < 256) (h2 : f % 16 = 0) : f = mkF (flagZ f) (flagN f) (flagH f) (flagC f) := by
  have h : ∀ j, j < 16 → 16 * j = mkF (flagZ (16 * j)) (flagN (16 * j)) (flagH (16 * j)) (flagC (16 * j)) := by decide
  have e : f = 16 * (f / 16) := by omega
  rw [e]; exact h _ (by omega)

@[simp] theorem flagZ_mkF (z n h c : Bool) : flagZ (mkF z n h c) = z := by
  cases z <;> cases n <;> cases h <;> cases c <;> decide
@[simp] theorem flagN_mkF (z n h c : Bool) : flagN (mkF z n h c) = n := by
  cases z <;> cases n <;> cases h <;> cases c <;> decide
@[simp] theorem flagH_mkF (z n h c : Bool) : flagH (mkF z n h c) = h := by
  cases z <;> cases n <;> cases h <;> cases c <;> decide
@[simp] theorem flagC_mkF (z n h c : Bool) : flagC (mkF z n h c) = c := by
  cases z <;> cases n <;> cases h <;> cases c <;> decide

/-- replacing AF's flag byte -/
theorem conc_setF (c : Cpu) (k f : Nat) : { conc c k with af := c.a * 256 + f } = conc { c with f := f } k := rfl

theorem applyMask_conc {c : Cpu} (hc : CWF c) (k mask : Nat) (hm : mask < 256) :
    applyMask (conc c k) mask = conc { c with f := c.f &&& (255 - mask) } k := by
  have hK : (0xff00 ||| (mask ^^^ 0xff) % 256) = 255 * 256 + (255 - mask) := by
    rw [xor_ff _ hm, Nat.mod_eq_of_lt (by omega)]; exact or_lo 255 _ (by omega)
  have hm' : 255 - mask < 256 := by omega
  simp only [applyMask, conc, Regs.mk.injEq, and_true]
  rw [hK, and_mask16 _ _ (hi_lo _ _ hm').1, (hi_lo _ _ hc.hf).1, (hi_lo _ _ hc.hf).2, (hi_lo _ _ hm').2, Nat.mod_eq_of_lt hc.ha]

theorem orF_conc {c : Cpu} (hc : CWF c) (k bits : Nat) (hb : bits < 256) :
    orF (conc c k) bits = conc { c with f := c.f ||| bits } k := by
  simp only [orF, conc, Regs.mk.injEq, and_true]
  rw [or_low _ _ hb, (hi_lo _ _ hc.hf).1, (hi_lo _ _ hc.hf).2]

theorem mkF_and_0f : ∀ z n h c, mkF z n h c &&& (255 - 0xf0) = mkF false false false false := by decide
theorem mkF_and_1f : ∀ z n h c, mkF z n h c &&& (255 - 0xe0) = mkF false false false c := by decide
theorem mkF_and_8f : ∀ z n h c, mkF z n h c &&& (255 - 0x70) = mkF z false false false := by decide
theorem mkF_and_9f : ∀ z n h c, mkF z n h c &&& (255 - 0x60) = mkF z false false c := by decide
theorem mkF_or_80 : ∀ z n h c, mkF z n h c ||| 0x80 = mkF true n h c := by decide
theorem mkF_or_40 : ∀ z n h c, mkF z n h c ||| 0x40 = mkF z true h c := by decide
theorem mkF_or_20 : ∀ z n h c, mkF z n h c ||| 0x20 = mkF z n true c := by decide
theorem mkF_or_10 : ∀ z n h c, mkF z n h c ||| 0x10 = mkF z n h true := by decide
theorem mkF_xor_10 : ∀ z n h c, mkF z n h c ^^^ 0x10 = mkF z n h (!c) := by decide

/-- an SM83 state with its flags spelled out -/
theorem cpu_f_eq {c : Cpu} (hc : CWF c) : c = { c with f := mkF (flagZ c.f) (flagN c.f) (flagH c.f) (flagC c.f) } := by
  have := f_eq_mkF c.f hc.hf hc.hf0
  cases c; simp only [Cpu.mk.injEq, true_and, and_true] at *; exact this

/-- masking flags off leaves a state with explicit flags: the form all flag helper lemmas work on -/
theorem mask_mkF {c : Cpu} (hc : CWF c) (k mask : Nat) (hm : mask < 256) {z n h cy : Bool}
    (e : mkF (flagZ c.f) (flagN c.f) (flagH c.f) (flagC c.f) &&& (255 - mask) = mkF z n h cy) :
    applyMask (conc c k) mask = conc { c with f := mkF z n h cy } k := by
  rw [applyMask_conc hc k _ hm]
  conv => lhs; rw [f_eq_mkF c.f hc.hf hc.hf0, e]

theorem mask_f0 {c : Cpu} (hc : CWF c) (k : Nat) :
    applyMask (conc c k) 0xf0 = conc { c with f := mkF false false false false } k :=
  mask_mkF hc k _ (by decide) (mkF_and_0f ..)
theorem mask_e0 {c : Cpu} (hc : CWF c) (k : Nat) :
    applyMask (conc c k) 0xe0 = conc { c with f := mkF false false false (flagC c.f) } k :=
  mask_mkF hc k _ (by decide) (mkF_and_1f ..)
theorem mask_70 {c : Cpu} (hc : CWF c) (k : Nat) :
    applyMask (conc c k) 0x70 = conc { c with f := mkF (flagZ c.f) false false false } k :=
  mask_mkF hc k _ (by decide) (mkF_and_8f ..)
theorem mask_60 {c : Cpu} (hc : CWF c) (k : Nat) :
    applyMask (conc c k) 0x60 = conc { c with f := mkF (flagZ c.f) false false (flagC c.f) } k :=
  mask_mkF hc k _ (by decide) (mkF_and_9f ..)

/-- OR-ing flag bits into a state whose flags are an explicit `mkF` -/
theorem orF_mkF {c : Cpu} (hc : CWF c) (k bits : Nat) (hb : bits < 256) {z n h cy z' n' h' cy' : Bool}
    (e : mkF z n h cy ||| bits = mkF z' n' h' cy') :
    orF (conc { c with f := mkF z n h cy } k) bits = conc { c with f := mkF z' n' h' cy' } k := by
  rw [orF_conc (cwf_mkF hc ..) _ _ hb, e]

theorem orF80_mkF {c : Cpu} (hc : CWF c) (k : Nat) (z n h cy : Bool) :
    orF (conc { c with f := mkF z n h cy } k) 0x80 = conc { c with f := mkF true n h cy } k :=
  orF_mkF hc k _ (by decide) (mkF_or_80 ..)
theorem orF40_mkF {c : Cpu} (hc : CWF c) (k : Nat) (z n h cy : Bool) :
    orF (conc { c with f := mkF z n h cy } k) 0x40 = conc { c with f := mkF z true h cy } k :=
  orF_mkF hc k _ (by decide) (mkF_or_40 ..)
theorem orF20_mkF {c : Cpu} (hc : CWF c) (k : Nat) (z n h cy : Bool) :
    orF (conc { c with f := mkF z n h cy } k) 0x20 = conc { c with f := mkF z n true cy } k :=
  orF_mkF hc k _ (by decide) (mkF_or_20 ..)
theorem orF10_mkF {c : Cpu} (hc : CWF c) (k : Nat) (z n h cy : Bool) :
    orF (conc { c with f := mkF z n h cy } k) 0x10 = conc { c with f := mkF z n h true } k :=
  orF_mkF hc k _ (by decide) (mkF_or_10 ..)

theorem testCarry_mkF {c : Cpu} (hc : CWF c) (k : Nat) (z n h cy b : Bool) :
    testCarry (conc { c with f := mkF z n h cy } k) b = conc { c with f := mkF z n h (cy || b) } k := by
  cases b
  · rw [Bool.or_false]; rfl
  · rw [Bool.or_true]; exact orF10_mkF hc k z n h cy
theorem testHalf_mkF {c : Cpu} (hc : CWF c) (k : Nat) (z n h cy b : Bool) :
    testHalf (conc { c with f := mkF z n h cy } k) b = conc { c with f := mkF z n (h || b) cy } k := by
  cases b
  · rw [Bool.or_false]; rfl
  · rw [Bool.or_true]; exact orF20_mkF hc k z n h cy
theorem setNeg_mkF {c : Cpu} (hc : CWF c) (k : Nat) (z n h cy : Bool) :
    setNeg (conc { c with f := mkF z n h cy } k) = conc { c with f := mkF z true h cy } k :=
  orF40_mkF hc k z n h cy
theorem testZero_mkF {c : Cpu} (hc : CWF c) (k : Nat) (z n h cy : Bool) (v : Nat) :
    testZero (conc { c with f := mkF z n h cy } k) v = conc { c with f := mkF (z || decide (v = 0)) n h cy } k := by
  by_cases hv : v = 0
  · subst hv; rw [decide_eq_true rfl, Bool.or_true]; exact orF80_mkF hc k z n h cy
  · simp [testZero, hv]

theorem carryIn_conc {c : Cpu} (hc : CWF c) (k : Nat) : carryIn (conc c k).af = if flagC c.f then 1 else 0 := by
  simp only [carryIn, conc, and_10_ne, flagC]
  have : (c.a * 256 + c.f) / 16 % 2 = c.f / 16 % 2 := by have := hc.hf; omega
  rw [this]; rfl

theorem hl_lt {c : Cpu} (hc : CWF c) : SM83.hl c < 65536 := by
  have := hc.hh; have := hc.hl; simp only [SM83.hl]; omega
theorem bc_lt {c : Cpu} (hc : CWF c) : SM83.bc c < 65536 := by
  have := hc.hb; have := hc.hc; simp only [SM83.bc]; omega
theorem de_lt {c : Cpu} (hc : CWF c) : SM83.de c < 65536 := by
  have := hc.hd; have := hc.he; simp only [SM83.de]; omega

/-- the SM83 pair index `rp[p]` of BC DE HL SP; AF, which `rp` does not hold, gets 4 and is excluded or treated apart by
every user -/
def idx16 : Reg16 → Nat
  | .BC => 0 | .DE => 1 | .HL => 2 | .SP => 3 | .AF => 4

theorem getRP_lt {c : Cpu} (hc : CWF c) (p : Nat) : SM83.getRP c p < 65536 := by
  unfold SM83.getRP; split
  · exact bc_lt hc
  · exact de_lt hc
  · exact hl_lt hc
  · exact hc.hsp

theorem getReg16_conc {c : Cpu} (hc : CWF c) (k : Nat) (reg : Reg16) (h : reg ≠ .AF) :
    getReg16 (conc c k) reg = SM83.getRP c (idx16 reg) := by
  cases reg
  · exact absurd rfl h
  · exact Nat.mod_eq_of_lt (bc_lt hc)
  · exact Nat.mod_eq_of_lt (de_lt hc)
  · exact Nat.mod_eq_of_lt (hl_lt hc)
  · exact Nat.mod_eq_of_lt hc.hsp

theorem getHL_conc {c : Cpu} (hc : CWF c) (k : Nat) : getReg16 (conc c k) .HL = SM83.hl c :=
  getReg16_conc hc k .HL (by decide)
theorem getSP_conc {c : Cpu} (hc : CWF c) (k : Nat) : getReg16 (conc c k) .SP = c.sp :=
  getReg16_conc hc k .SP (by decide)
theorem getAF_conc {c : Cpu} (hc : CWF c) (k : Nat) : getReg16 (conc c k) .AF = c.a * 256 + c.f :=
  Nat.mod_eq_of_lt (show c.a * 256 + c.f < 65536 by have := hc.ha; have := hc.hf; omega)

theorem setReg16_conc {c : Cpu} (k : Nat) (reg : Reg16) (h : reg ≠ .AF) (v : Nat) (hv : v < 65536) :
    setReg16 (conc c k) reg v = conc (SM83.setRP c (idx16 reg) v) k := by
  cases reg
  · exact absurd rfl h
  all_goals simp only [setReg16, conc, idx16, SM83.setRP, SM83.setHL, split16 v hv, Nat.mod_eq_of_lt hv]

theorem setHL_conc {c : Cpu} (k : Nat) (v : Nat) (hv : v < 65536) :
    setReg16 (conc c k) .HL v = conc (SM83.setHL c v) k :=
  setReg16_conc k .HL (by decide) v hv

theorem cwf_setHL {c : Cpu} (hc : CWF c) (v : Nat) : CWF (SM83.setHL c v) := { hc with hh := mod256_lt _, hl := mod256_lt _ }

theorem cwf_setRP {c : Cpu} (hc : CWF c) (p v : Nat) : CWF (SM83.setRP c p v) := by
  unfold SM83.setRP; split
  · exact { hc with hb := mod256_lt _, hc := mod256_lt _ }
  · exact { hc with hd := mod256_lt _, he := mod256_lt _ }
  · exact cwf_setHL hc v
  · exact { hc with hsp := Nat.mod_lt _ (by decide) }

theorem cwf_next {c : Cpu} (hc : CWF c) (n : Nat) : CWF (SM83.next c n) := { hc with hpc := Nat.mod_lt _ (by decide) }

theorem cwf_setPC {c : Cpu} (hc : CWF c) (v : Nat) (hv : v < 65536) : CWF { c with pc := v } := { hc with hpc := hv }

theorem cwf_setSP {c : Cpu} (hc : CWF c) (v : Nat) (hv : v < 65536) : CWF { c with sp := v } := { hc with hsp := hv }

end GbVerif.C05
