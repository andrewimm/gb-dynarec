import GbVerif.Model.JitSp
import GbVerif.Proofs.X86Paths
/-!
Soundness of the SP bookkeeping analysis (`JitSp.trSp`) for executions of the x86 model: the low 16 bits of r12 are
their start value plus the delta of the analysis; while the analysis has r12d rotated by 8, r12 is `rol8` / `ror8` of such
a value (`SpRel`).
-/
namespace GbVerif.X86
open GbVerif.JitCycles GbVerif.JitPaths GbVerif.JitSp
variable {β : Type}

def rol8 (v : Nat) : Nat := (v % 2 ^ 24) * 256 + v / 2 ^ 24
def ror8 (v : Nat) : Nat := (v % 256) * 2 ^ 24 + v / 256

theorem rol_eq (v : Nat) (fl : Flags) (hv : v < 2 ^ 32) : (shOp .rol 32 v 8 fl).1 = rol8 v := by
  show (v * 2 ^ 8 % (2 ^ 24 * 2 ^ 8)) ||| (v / 2 ^ 24) = _
  rw [Nat.mul_mod_mul_right, or_disjoint _ _ 8 (Nat.div_lt_of_lt_mul hv)]
  rfl

theorem ror_eq (v : Nat) (fl : Flags) (hv : v < 2 ^ 32) : (shOp .ror 32 v 8 fl).1 = ror8 v := by
  show (v / 2 ^ 8) ||| (v * 2 ^ 24 % (2 ^ 8 * 2 ^ 24)) = _
  rw [Nat.mul_mod_mul_right, Nat.or_comm, or_disjoint _ _ 24 (Nat.div_lt_of_lt_mul hv)]
  rfl

theorem rol_ror (v : Nat) (hv : v < 2 ^ 32) : rol8 (ror8 v) = v := by unfold rol8 ror8; omega
theorem ror_rol (v : Nat) (hv : v < 2 ^ 32) : ror8 (rol8 v) = v := by unfold rol8 ror8; omega
theorem rol8_lt (v : Nat) (hv : v < 2 ^ 32) : rol8 v < 2 ^ 32 := by unfold rol8; omega
theorem ror8_lt (v : Nat) (hv : v < 2 ^ 32) : ror8 v < 2 ^ 32 := by unfold ror8; omega

/-- the relation carried along a run; `base` = r12 at the start of the template -/
def SpRel (base : Nat) (a : SpSt) (s : St β) : Prop :=
  if a.2 = 0 then (get s 12).toNat % 65536 = (base + a.1) % 65536
  else if a.2 = 1 then ∃ v, v < 2 ^ 32 ∧ (get s 12).toNat = rol8 v ∧ v % 65536 = (base + a.1) % 65536
  else if a.2 = 2 then ∃ v, v < 2 ^ 32 ∧ (get s 12).toNat = ror8 v ∧ v % 65536 = (base + a.1) % 65536
  else False

theorem spRel_of_get {base : Nat} {a : SpSt} {s s1 : St β} (h : get s1 12 = get s 12) (hR : SpRel base a s) : SpRel base a s1 := by
  unfold SpRel at hR ⊢; rw [h]; exact hR

theorem low16_of_eq64 {y z : Nat} (h : y = z % 2 ^ 64) : y % 65536 = z % 65536 := by
  rw [h, Nat.mod_mod_of_dvd _ (by decide)]

theorem sub_low16 (x n : Nat) (hn : n ≤ 65536) : (x + 2 ^ 64 - n) % 65536 = (x + (65536 - n)) % 65536 := by
  have e : x + 2 ^ 64 - n = x + (65536 - n) + 65536 * (2 ^ 48 - 1) := by omega
  rw [e, Nat.add_mul_mod_self_left]

/-- while r12 is not rotated, an instruction that adds `k` to its low word adds `k` to the delta -/
theorem spRel_add {base k : Nat} {a : SpSt} {s s1 : St β} (h0 : a.2 = 0) (hR : SpRel base a s)
    (h : (get s1 12).toNat % 65536 = ((get s 12).toNat + k) % 65536) : SpRel base ((a.1 + k) % 65536, a.2) s1 := by
  unfold SpRel at hR ⊢
  rw [if_pos h0] at hR
  rw [if_pos h0, h]
  show _ = (base + (a.1 + k) % 65536) % 65536
  rw [Nat.add_mod_mod, ← Nat.add_assoc, ← Nat.mod_add_mod, hR, Nat.mod_add_mod]

/-- rotating the low double word `x % 2^32` of the unrotated r12 by `f` -/
theorem sp_rotate {f : Nat → Nat} {x y t : Nat} (hy : y = f (x % 2 ^ 32) % 2 ^ 32) (hf : ∀ v, v < 2 ^ 32 → f v < 2 ^ 32)
    (hx : x % 65536 = t) : ∃ v, v < 2 ^ 32 ∧ y = f v ∧ v % 65536 = t :=
  ⟨x % 2 ^ 32, Nat.mod_lt _ (by decide), by rw [hy, Nat.mod_eq_of_lt (hf _ (Nat.mod_lt _ (by decide)))],
    by rw [Nat.mod_mod_of_dvd _ (by decide)]; exact hx⟩

/-- r12 rotated by `g`: rotating by the inverse `f` restores it -/
theorem sp_rotate_back {f g : Nat → Nat} {x y t : Nat} (hy : y = f (x % 2 ^ 32) % 2 ^ 32)
    (hfg : ∀ v, v < 2 ^ 32 → f (g v) = v) (hg : ∀ v, v < 2 ^ 32 → g v < 2 ^ 32)
    (hx : ∃ v, v < 2 ^ 32 ∧ x = g v ∧ v % 65536 = t) : y % 65536 = t := by
  obtain ⟨v, hv, rfl, ht⟩ := hx
  rw [hy, Nat.mod_eq_of_lt (hg v hv), hfg v hv, Nat.mod_eq_of_lt hv]
  exact ht

theorem dest_ne_12 {ins : Instr} (hw : writesR12Otherwise ins = false)
    (h1 : ∀ n, ins ≠ .aluI .add .q 12 [n] true) (h2 : ∀ n, ins ≠ .aluI .sub .q 12 [n] true)
    (h3 : ins ≠ .aluI .and .q 12 [255, 255, 0, 0] false) (h4 : ∀ d, ins ≠ .incdec16 d 12)
    (h5 : ins ≠ .sh32 .rol 12 8) (h6 : ins ≠ .sh32 .ror 12 8) : destReg ins ≠ some 12 := by
  unfold writesR12Otherwise at hw
  split at hw
  · rename_i n; exact absurd rfl (h1 n)
  · rename_i n; exact absurd rfl (h2 n)
  · exact absurd rfl h3
  · rename_i d; exact absurd rfl (h4 d)
  · exact absurd rfl h5
  · exact absurd rfl h6
  · simpa using hw

theorem sp_carries (B : Interp.BusOps β) (base : Nat) : Carries B trSp (SpRel (β := β) base) where
  pc := fun _ _ _ h => h
  step := by
    intro ins a a' s s1 len hj1 hj2 htr hR hsz hstep
    unfold trSp at htr
    by_cases hw : writesR12Otherwise ins = true
    · rw [if_pos hw] at htr; cases htr
    · rw [if_neg hw] at htr
      split at htr
      · -- add r12, n
        rename_i n
        split at htr
        · cases htr
        · rename_i hc
          simp only [Bool.or_eq_true, decide_eq_true_eq, bne_iff_ne, ne_eq, not_or, Decidable.not_not] at hc
          cases htr
          exact spRel_add hc.2 hR (low16_of_eq64 (step_add_q B s s1 12 n len (by decide) (by omega) hsz hstep))
      · -- sub r12, n
        rename_i n
        split at htr
        · cases htr
        · rename_i hc
          simp only [Bool.or_eq_true, decide_eq_true_eq, bne_iff_ne, ne_eq, not_or, Decidable.not_not] at hc
          cases htr
          rw [Nat.add_sub_assoc (by omega : n ≤ 65536)]
          refine spRel_add hc.2 hR ?_
          rw [low16_of_eq64 (step_sub_q B s s1 12 n len (by decide) (by omega) hsz hstep), sub_low16 _ n (by omega)]
      · -- and r12, 0xffff
        split at htr
        · cases htr
        · rename_i hc
          simp only [bne_iff_ne, ne_eq, Decidable.not_not] at hc
          cases htr
          unfold SpRel at hR ⊢
          rw [if_pos hc] at hR
          rw [if_pos hc, step_mask_q B s s1 12 len (by decide) hsz hstep, Nat.mod_mod]
          exact hR
      · -- inc / dec r12w
        rename_i dec
        split at htr
        · cases htr
        · rename_i hc
          simp only [bne_iff_ne, ne_eq, Decidable.not_not] at hc
          cases htr
          exact spRel_add hc hR (step_incdec16 B s s1 dec 12 len (by decide) hsz hstep)
      · -- rol r12d, 8: out of the unrotated state, or back from the right rotation
        have hm := step_sh32_lit B s s1 .rol 12 8 len (by decide) (by omega) hstep
        rw [rol_eq _ _ (Nat.mod_lt _ (by decide))] at hm
        unfold SpRel at hR ⊢
        split at htr
        · rename_i hc
          cases htr
          rw [if_pos (eq_of_beq hc)] at hR
          rw [if_neg (show ¬ (1 : Nat) = 0 by decide), if_pos rfl]
          exact sp_rotate hm rol8_lt hR
        · split at htr
          · rename_i hc0 hc
            cases htr
            have hc' : a.2 = 2 := eq_of_beq hc
            rw [if_neg (by omega), if_neg (by omega), if_pos hc'] at hR
            rw [if_pos rfl]
            exact sp_rotate_back hm rol_ror ror8_lt hR
          · cases htr
      · -- ror r12d, 8, the mirror image
        have hm := step_sh32_lit B s s1 .ror 12 8 len (by decide) (by omega) hstep
        rw [ror_eq _ _ (Nat.mod_lt _ (by decide))] at hm
        unfold SpRel at hR ⊢
        split at htr
        · rename_i hc
          cases htr
          rw [if_pos (eq_of_beq hc)] at hR
          rw [if_neg (show ¬ (2 : Nat) = 0 by decide), if_neg (show ¬ (2 : Nat) = 1 by decide), if_pos rfl]
          exact sp_rotate hm ror8_lt hR
        · split at htr
          · rename_i hc0 hc
            cases htr
            have hc' : a.2 = 1 := eq_of_beq hc
            rw [if_neg (by omega), if_pos hc'] at hR
            rw [if_pos rfl]
            exact sp_rotate_back hm ror_rol rol8_lt hR
          · cases htr
      · rename_i h1 h2 h3 h4 h5 h6
        cases htr
        exact spRel_of_get (step_reg B hstep (dest_ne_12 ((Bool.not_eq_true _).mp hw) h1 h2 h3 h4 h5 h6) (by decide)) hR

/-- **what `jitSp` means**: every complete run of the template changes the low 16 bits of r12 by one of the deltas of
the analysis (mod 2^16) -/
theorem jitSp_sound (B : Interp.BusOps β) (tokens : List Nat) (code : List (Nat × Instr)) (C : List Nat)
    (hdec : decodeCode tokens = some code) (hok : codeOk code (bytesOf tokens) = true) (hC : jitSp tokens = some C)
    (fr : Nat) (s s' : St β) (hsz : s.r.size = 16) (hpc : s.pc = offAt code (bytesOf tokens) 0)
    (hrun : run B code (bytesOf tokens) fr s = .ok s') :
    ∃ l ∈ C, (get s' 12).toNat % 65536 = ((get s 12).toNat + l) % 65536 := by
  have hR : SpRel (β := β) (get s 12).toNat (0, 0) s := by unfold SpRel; rw [if_pos rfl]; rfl
  obtain ⟨a', n, hR', hf, hn⟩ := analyse_sound B trSp (0, 0) (fun a => if a.2 == 0 then some a.1 else none) _
    (sp_carries B (get s 12).toNat) tokens code C hdec hok hC fr s s' hsz hpc hR hrun
  split at hf
  · rename_i hz
    cases hf
    unfold SpRel at hR'
    rw [if_pos (by simpa using hz)] at hR'
    exact ⟨a'.1, hn, hR'⟩
  · cases hf

end GbVerif.X86
