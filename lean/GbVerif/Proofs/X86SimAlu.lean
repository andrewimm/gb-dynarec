import GbVerif.Proofs.X86Flags
import GbVerif.Proofs.X86SimMoves
import GbVerif.Proofs.Enum
/-
C01, the data side, for the 8-bit ALU instructions on A: `op ah, src ; <flag conversion> ; [fix-up of F] ; tail`.  This file
has the parts: the conversion at a template's offsets (`pipeAt`), the operation on A with its operand as a parameter
(`IsAOp`, `step_aop_sim`), the interpreter's flag updates read on the (A, F) bytes of AF (`orF_pack` … `flagsSub_af`,
`rotFlags_pack`; `SameButAf`), the fix-up instructions on al as functions on the F byte (`AlTail`), and their composition
(`pipe_tail_sim`).  Of the instructions, ADD A,r is closed here; the others follow in X86SimAlu2, X86SimAlu3, X86SimAdc.
-/
namespace GbVerif.X86
open GbVerif.JitCycles GbVerif.Interp
variable {β : Type}

/-- the nine instructions of the flag conversion at the offsets `o 1 … o 9`.  A template has ONE offset function `o`: `o 0` is the
instruction before the conversion (the operation whose flags are converted), `o 10`, `o 11` the fix-ups after it; the tables
`aluOff`, `aluOff'`, `adcOff`, … below are such functions -/
def pipeAt (o : Nat → Nat) (keep take : Nat) : List (Nat × Instr) :=
  [(o 1, .pushf), (o 2, .pop 6), (o 3, .aluI .and .d 6 [81] true), (o 4, .sh32 .shl 6 1),
   (o 5, .aluI .add .d 6 [14] true), (o 6, .aluI .and .d 6 [240, 0, 0, 0] false), (o 7, .aluI .and .d 0 [keep, 255, 0, 0] false),
   (o 8, .aluI .and .d 6 [take, 0, 0, 0] false), (o 9, .alu .or .d 0 6)]

/-- what is left alone by an ALU template body: every register but rax and rsi, the bus, the host stack -/
structure Frame06 (s s' : St β) : Prop where
  regs : ∀ j, 0 ≠ j → 6 ≠ j → get s' j = get s j
  bus : s'.bus = s.bus
  stack : s'.stack = s.stack
  size : s'.r.size = 16

/-- `ins` is "A := A op operand" on the host (`cmp` leaves A), with the operand read off the state by `rd` -/
def IsAOp (B : BusOps β) (op : AluOp) (ins : Instr) (rd : St β → Nat) : Prop :=
  ∀ (s : St β) (len : Nat), step B s ins len =
    .ok { (if op == .cmp then ({ s with pc := s.pc + len } : St β)
           else set8 ({ s with pc := s.pc + len } : St β) (.hi 0) (aluOp op 8 (get8 s (.hi 0)) (rd s) s.fl).1) with
          fl := (aluOp op 8 (get8 s (.hi 0)) (rd s) s.fl).2 }

theorem isAOp_reg (B : BusOps β) (op : AluOp) (src : R8) : IsAOp B op (.alu8 op (.hi 0) src) (fun s => get8 s src) :=
  fun _ _ => rfl

theorem isAOp_imm (B : BusOps β) (op : AluOp) : IsAOp B op (.alu8i op (.hi 0) 256) (fun s => s.op1) :=
  fun _ _ => rfl

set_option maxRecDepth 4000 in
theorem alu_then_pipe (B : BusOps β) (op : AluOp) (ins : Instr) (rd : St β → Nat) (hins : IsAOp B op ins rd) (keep take : Nat) (hk : keep < 256) (ht : take < 256)
    (o : Nat → Nat) (e : Nat) (s s' : St β) (hsz : s.r.size = 16)
    (hex : execList B e ((o 0, ins) :: pipeAt o keep take) s = .ok s') :
    (get s' 0).toNat % 65536 =
      (if op == .cmp then get8 s (.hi 0) else (aluOp op 8 (get8 s (.hi 0)) (rd s) s.fl).1 % 256) * 256 +
        (((get s 0).toNat % 256 &&& keep) ||| (conv (aluOp op 8 (get8 s (.hi 0)) (rd s) s.fl).2 &&& take)) ∧
    Frame06 s s' := by
  obtain ⟨s1, h1, hex⟩ := execList_cons B _ _ _ _ _ _ hex
  have e1 := hins s (headOff e (pipeAt o keep take) - o 0)
  rw [e1] at h1
  injection h1 with h1
  have hfl : s1.fl = (aluOp op 8 (get8 s (.hi 0)) (rd s) s.fl).2 := by rw [← h1]
  have hs1 : s1.r.size = 16 := by
    rw [← h1]; show (if op == .cmp then _ else _ : St β).r.size = 16
    split
    · exact hsz
    · rw [size_set8]; exact hsz
  have hb1 : s1.bus = s.bus := by
    rw [← h1]; show (if op == .cmp then _ else _ : St β).bus = s.bus
    split
    · rfl
    · rw [bus_set8]
  have hst1 : s1.stack = s.stack := by
    rw [← h1]; show (if op == .cmp then _ else _ : St β).stack = s.stack
    split
    · rfl
    · rw [stack_set8]
  have hr1 : ∀ j, 0 ≠ j → get s1 j = get s j := by
    intro j hj
    rw [← h1]; show get (if op == .cmp then _ else _ : St β) j = get s j
    split
    · rfl
    · rw [get_set8_ne _ _ _ _ (by simpa [r8reg] using hj)]; rfl
  have hx : (get s1 0).toNat % 65536 =
      (if op == .cmp then get8 s (.hi 0) else (aluOp op 8 (get8 s (.hi 0)) (rd s) s.fl).1 % 256) * 256 + (get s 0).toNat % 256 := by
    rw [← h1]; show (get (if op == .cmp then _ else _ : St β) 0).toNat % 65536 = _
    have hlt := (get s 0).isLt
    split
    · show (get s 0).toNat % 65536 = (get s 0).toNat / 256 % 256 * 256 + (get s 0).toNat % 256
      omega
    · rw [toNat_set8_hi _ _ _ (by show 0 < s.r.size; omega)]
      show ((get s 0).toNat - (get s 0).toNat / 256 % 256 * 256 + _ % 256 * 256) % 2 ^ 64 % 65536 = _
      omega
  obtain ⟨hv, hf, hb, hst, hsz'⟩ := flag_pipe B keep take hk ht (o 1) (o 2) (o 3) (o 4) (o 5) (o 6) (o 7) (o 8) (o 9) e s1 s' hs1 hex
  refine ⟨?_, ⟨fun j h0 h6 => by rw [hf j h0 h6, hr1 j h0], by rw [hb, hb1], by rw [hst, hst1], hsz'⟩⟩
  rw [hv, hfl]
  have hc := conv_lt (aluOp op 8 (get8 s (.hi 0)) (rd s) s.fl).2
  refine pipe_low16 _ keep _ _ _ hk (Nat.lt_of_le_of_lt Nat.and_le_left hc) (Nat.mod_lt _ (by decide)) ?_ hx
  split
  · show (get s 0).toNat / 256 % 256 < 256; omega
  · omega

/-- `and`, `or`, `xor` on bytes; any other operation (none occurs in a fix-up, see `alTail_cons`) gives the first argument -/
def bitop : AluOp → Nat → Nat → Nat
  | .and, a, b => a &&& b
  | .or, a, b => a ||| b
  | .xor, a, b => a ^^^ b
  | _, a, _ => a

theorem bitop_lt (op : AluOp) (a k : Nat) (ha : a < 256) (hk : k < 256) : bitop op a k < 256 := by
  cases op <;> simp only [bitop] <;> first
    | exact ha
    | exact Nat.lt_of_le_of_lt Nat.and_le_left ha
    | exact Nat.or_lt_two_pow (n := 8) ha hk
    | exact Nat.xor_lt_two_pow (n := 8) ha hk

theorem bytes_of_low16 {x a f : Nat} (hf : f < 256) (hx : x % 65536 = a * 256 + f) :
    x / 256 % 256 = a ∧ x % 256 = f := by omega

set_option maxRecDepth 4000 in
theorem step_al8 (B : BusOps β) {op : AluOp} (hop : (op == .cmp) = false) {k : Nat} (hk : k < 256) {s s1 : St β} {len a f : Nat}
    (hsz : s.r.size = 16) (hf : f < 256) (hx : (get s 0).toNat % 65536 = a * 256 + f)
    (h : step B s (.alu8i op (.lo 0) k) len = .ok s1) :
    (get s1 0).toNat % 65536 = a * 256 + (aluOp op 8 f k s.fl).1 % 256 ∧ s1.fl = (aluOp op 8 f k s.fl).2 ∧
    (∀ j, 0 ≠ j → get s1 j = get s j) ∧ s1.bus = s.bus ∧ s1.stack = s.stack ∧ s1.r.size = 16 ∧ s1.op1 = s.op1 := by
  have e1 : step B s (.alu8i op (.lo 0) k) len =
      .ok { (set8 ({ s with pc := s.pc + len } : St β) (.lo 0) (aluOp op 8 f k s.fl).1) with fl := (aluOp op 8 f k s.fl).2 } := by
    simp only [step, hop, Bool.false_eq_true, if_false]
    rw [tokVal_small _ k hk, show get8 ({ s with pc := s.pc + len } : St β) (.lo 0) = f from
      show (get s 0).toNat % 256 = f by omega]
  rw [e1] at h
  cases Except.ok.inj h
  refine ⟨?_, rfl, fun j hj => get_set8_ne _ _ _ _ hj, bus_set8 _ _ _, stack_set8 _ _ _, (size_set8 _ _ _).trans hsz, rfl⟩
  have hlt := (get s 0).isLt
  have := toNat_set8_lo ({ s with pc := s.pc + len } : St β) 0 (aluOp op 8 f k s.fl).1 (by show 0 < s.r.size; omega)
  have e0 : get ({ s with pc := s.pc + len } : St β) 0 = get s 0 := rfl
  rw [e0] at this
  show (get (set8 _ (.lo 0) _) 0).toNat % 65536 = _
  omega

theorem step_al (B : BusOps β) (op : AluOp) (hop : op = .and ∨ op = .or ∨ op = .xor) (k : Nat) (hk : k < 256)
    (s s1 : St β) (len : Nat) (hsz : s.r.size = 16) (h : step B s (.alu8i op (.lo 0) k) len = .ok s1) :
    (get s1 0).toNat % 65536 = ((get s 0).toNat / 256 % 256) * 256 + bitop op ((get s 0).toNat % 256) k ∧
    (∀ j, 0 ≠ j → get s1 j = get s j) ∧ s1.bus = s.bus ∧ s1.stack = s.stack ∧ s1.r.size = 16 := by
  have hb := bitop_lt op ((get s 0).toNat % 256) k (Nat.mod_lt _ (by decide)) hk
  have hval : (aluOp op 8 ((get s 0).toNat % 256) k s.fl).1 = bitop op ((get s 0).toNat % 256) k := by
    rcases hop with e | e | e <;> subst e <;> rfl
  obtain ⟨x, _, r⟩ := step_al8 B (by rcases hop with e | e | e <;> subst e <;> rfl) hk hsz (Nat.mod_lt _ (by decide))
    (by omega : _ = (get s 0).toNat / 256 % 256 * 256 + (get s 0).toNat % 256) h
  rw [hval, Nat.mod_eq_of_lt hb] at x
  exact ⟨x, r.1, r.2.1, r.2.2.1, r.2.2.2.1⟩

theorem frame06_al {s s1 s2 : St β} (hf : Frame06 s s1) (h : ∀ j, 0 ≠ j → get s2 j = get s1 j) (hb : s2.bus = s1.bus)
    (hst : s2.stack = s1.stack) (hsz : s2.r.size = 16) : Frame06 s s2 :=
  ⟨fun j h0 h6 => by rw [h j h0, hf.regs j h0 h6], by rw [hb, hf.bus], by rw [hst, hf.stack], hsz⟩

theorem mask_f0 : (0xff00 ||| ((0xf0 ^^^ 0xff) % 256) : Nat) = 255 * 256 + 0x0f := by decide

theorem orF_pack (r : Regs) (a f bits : Nat) (hf : f < 256) (hb : bits < 256) (hr : r.af = a * 256 + f) :
    (orF r bits).af = a * 256 + (f ||| bits) := by
  show r.af ||| bits = _
  have e := pack_or a f 0 bits hf hb
  simp only [Nat.zero_mul, Nat.zero_add, Nat.or_zero] at e
  rw [hr]; exact e

theorem applyMask_pack (r : Regs) (a f mask : Nat) (ha : a < 256) (hf : f < 256) (hr : r.af % 65536 = a * 256 + f) :
    (applyMask r mask).af = a * 256 + (f &&& ((mask ^^^ 0xff) % 256)) := by
  show r.af &&& (0xff00 ||| ((mask ^^^ 0xff) % 256)) = _
  have hk : (mask ^^^ 0xff) % 256 < 256 := Nat.mod_lt _ (by decide)
  have hM : (0xff00 ||| ((mask ^^^ 0xff) % 256) : Nat) = 255 * 256 + (mask ^^^ 0xff) % 256 := by
    have h1 : (0xff00 : Nat) = 255 * 256 + 0 := rfl
    have h2 : (mask ^^^ 0xff) % 256 = 0 * 256 + (mask ^^^ 0xff) % 256 := by omega
    rw [h1, h2, pack_or _ _ _ _ (by decide) hk]
    simp only [Nat.or_zero, Nat.zero_or]
    omega
  rw [hM]
  have hlt : r.af &&& (255 * 256 + (mask ^^^ 0xff) % 256) < 2 ^ 16 := Nat.lt_of_le_of_lt Nat.and_le_right (by omega)
  rw [← Nat.mod_eq_of_lt hlt, Nat.and_mod_two_pow]
  have e16 : (2 ^ 16 : Nat) = 65536 := rfl
  rw [e16, hr, Nat.mod_eq_of_lt (by omega : 255 * 256 + (mask ^^^ 0xff) % 256 < 65536), pack_and _ _ _ _ hf hk, and_255 a ha]

theorem iteOrF_pack (r : Regs) (a f b : Nat) (c : Prop) [Decidable c] (hf : f < 256) (hb : b < 256) (hr : r.af = a * 256 + f) :
    (if c then orF r b else r).af = a * 256 + (f ||| (if c then b else 0)) := by
  split
  · exact orF_pack r a f b hf hb hr
  · rw [Nat.or_zero]; exact hr

theorem testCarry_pack (r : Regs) (a f : Nat) (c : Bool) (hf : f < 256) (hr : r.af = a * 256 + f) :
    (testCarry r c).af = a * 256 + (f ||| (if c then 0x10 else 0)) := iteOrF_pack r a f _ _ hf (by decide) hr

theorem testHalf_pack (r : Regs) (a f : Nat) (c : Bool) (hf : f < 256) (hr : r.af = a * 256 + f) :
    (testHalf r c).af = a * 256 + (f ||| (if c then 0x20 else 0)) := iteOrF_pack r a f _ _ hf (by decide) hr

theorem testZero_pack (r : Regs) (a f x : Nat) (hf : f < 256) (hr : r.af = a * 256 + f) :
    (testZero r x).af = a * 256 + (f ||| (if x == 0 then 0x80 else 0)) := iteOrF_pack r a f _ _ hf (by decide) hr

theorem setNeg_pack (r : Regs) (a f : Nat) (hf : f < 256) (hr : r.af = a * 256 + f) :
    (setNeg r).af = a * 256 + (f ||| 0x40) := orF_pack r a f _ hf (by decide) hr

theorem or_bit_lt (f : Nat) (c : Bool) (k : Nat) (hf : f < 256) (hk : k < 256) : f ||| (if c then k else 0) < 256 := by
  apply Nat.or_lt_two_pow (n := 8) hf
  split
  · exact hk
  · decide

theorem af_split (g : Regs) : g.af % 65536 = getReg g .A * 256 + g.af % 256 := by
  show g.af % 65536 = getHi g.af * 256 + g.af % 256
  rw [getHi_eq]; omega

theorem applyMask_f0 (g : Regs) : (applyMask g 0xf0).af = getReg g .A * 256 + (g.af % 256 &&& 0x0f) :=
  applyMask_pack g _ _ 0xf0 (getReg_lt g .A) (Nat.mod_lt _ (by decide)) (af_split g)

theorem flagsAdd_af (g : Regs) (res : Nat × Bool × Bool) :
    (flagsAdd g res).af = getReg g .A * 256 +
      ((((g.af % 256 &&& 0x0f) ||| (if res.2.1 then 0x10 else 0)) ||| (if res.2.2 then 0x20 else 0)) ||| (if res.1 == 0 then 0x80 else 0)) := by
  have b0 : g.af % 256 &&& 0x0f < 256 := Nat.lt_of_le_of_lt Nat.and_le_right (by decide)
  have h1 := testCarry_pack _ _ _ res.2.1 b0 (applyMask_f0 g)
  have b1 := or_bit_lt _ res.2.1 0x10 b0 (by decide)
  exact testZero_pack _ _ _ res.1 (or_bit_lt _ res.2.2 0x20 b1 (by decide)) (testHalf_pack _ _ _ res.2.2 b1 h1)

theorem flagsAdd_pack (r : Regs) (a f x : Nat) (c h : Bool) (ha : a < 256) (hf : f < 256) (hr : r.af = a * 256 + f) :
    (flagsAdd r (x, c, h)).af =
      a * 256 + ((((f &&& 0x0f) ||| (if c then 0x10 else 0)) ||| (if h then 0x20 else 0)) ||| (if x == 0 then 0x80 else 0)) := by
  have hA : getReg r .A = a := by show getHi r.af = a; rw [getHi_eq, hr]; omega
  have hF : r.af % 256 = f := by rw [hr]; omega
  rw [flagsAdd_af, hA, hF]

theorem flagsSub_af (g : Regs) (res : Nat × Bool × Bool) :
    (flagsSub g res).af = getReg g .A * 256 +
      (((((g.af % 256 &&& 0x0f) ||| (if res.2.1 then 0x10 else 0)) ||| (if res.2.2 then 0x20 else 0)) ||| 0x40) ||| (if res.1 == 0 then 0x80 else 0)) := by
  have b0 : g.af % 256 &&& 0x0f < 256 := Nat.lt_of_le_of_lt Nat.and_le_right (by decide)
  have h1 := testCarry_pack _ _ _ res.2.1 b0 (applyMask_f0 g)
  have b1 := or_bit_lt _ res.2.1 0x10 b0 (by decide)
  have b2 := or_bit_lt _ res.2.2 0x20 b1 (by decide)
  exact testZero_pack _ _ _ res.1 (Nat.or_lt_two_pow (n := 8) b2 (by decide)) (setNeg_pack _ _ _ b2 (testHalf_pack _ _ _ res.2.2 b1 h1))

def SameButAf (g g' : Regs) : Prop :=
  g'.bc = g.bc ∧ g'.de = g.de ∧ g'.hl = g.hl ∧ g'.sp = g.sp ∧ g'.ip = g.ip ∧ g'.cycles = g.cycles

theorem sameButAf_orF (g : Regs) (b : Nat) : SameButAf g (orF g b) := ⟨rfl, rfl, rfl, rfl, rfl, rfl⟩
theorem sameButAf_applyMask (g : Regs) (b : Nat) : SameButAf g (applyMask g b) := ⟨rfl, rfl, rfl, rfl, rfl, rfl⟩
theorem SameButAf.trans {a b c : Regs} (h1 : SameButAf a b) (h2 : SameButAf b c) : SameButAf a c :=
  ⟨h2.1.trans h1.1, h2.2.1.trans h1.2.1, h2.2.2.1.trans h1.2.2.1, h2.2.2.2.1.trans h1.2.2.2.1,
   h2.2.2.2.2.1.trans h1.2.2.2.2.1, h2.2.2.2.2.2.trans h1.2.2.2.2.2⟩
theorem sameButAf_refl (g : Regs) : SameButAf g g := ⟨rfl, rfl, rfl, rfl, rfl, rfl⟩
theorem sameButAf_ite (g : Regs) (c : Prop) [Decidable c] (b : Nat) : SameButAf g (if c then orF g b else g) := by
  split
  · exact sameButAf_orF g b
  · exact sameButAf_refl g
theorem sameButAf_testCarry (g : Regs) (c : Bool) : SameButAf g (testCarry g c) := sameButAf_ite g _ _
theorem sameButAf_testHalf (g : Regs) (c : Bool) : SameButAf g (testHalf g c) := sameButAf_ite g _ _
theorem sameButAf_testZero (g : Regs) (x : Nat) : SameButAf g (testZero g x) := sameButAf_ite g _ _
theorem sameButAf_setA (g : Regs) (v : Nat) : SameButAf g (setReg g .A v) := ⟨rfl, rfl, rfl, rfl, rfl, rfl⟩
theorem sameButAf_flagsAdd (g : Regs) (res : Nat × Bool × Bool) : SameButAf g (flagsAdd g res) :=
  (((sameButAf_applyMask g _).trans (sameButAf_testCarry _ _)).trans (sameButAf_testHalf _ _)).trans (sameButAf_testZero _ _)
theorem sameButAf_flagsSub (g : Regs) (res : Nat × Bool × Bool) : SameButAf g (flagsSub g res) :=
  ((((sameButAf_applyMask g _).trans (sameButAf_testCarry _ _)).trans (sameButAf_testHalf _ _)).trans (sameButAf_orF _ _)).trans
    (sameButAf_testZero _ _)

theorem rotC_lt (f : Nat) (c : Bool) : (f &&& 0x0f) ||| (if c then 0x10 else 0) < 256 :=
  or_bit_lt _ c 0x10 (Nat.lt_of_le_of_lt Nat.and_le_right (by decide)) (by decide)

theorem rotFlagsC_pack (g1 : Regs) (res : Nat × Bool) :
    (flagsRot g1 res false).af = getReg g1 .A * 256 + ((g1.af % 256 &&& 0x0f) ||| (if res.2 then 0x10 else 0)) :=
  testCarry_pack _ _ _ res.2 (Nat.lt_of_le_of_lt Nat.and_le_right (by decide)) (applyMask_f0 g1)

theorem sameButAf_flagsRotC (g1 : Regs) (res : Nat × Bool) : SameButAf g1 (flagsRot g1 res false) :=
  (sameButAf_applyMask g1 _).trans (sameButAf_testCarry _ _)

theorem rotFlags_pack (g1 : Regs) (res : Nat × Bool) :
    (flagsRot g1 res true).af =
      getReg g1 .A * 256 + ((((g1.af % 256 &&& 0x0f) ||| (if res.2 then 0x10 else 0))) ||| (if res.1 == 0 then 0x80 else 0)) :=
  testZero_pack _ _ _ res.1 (rotC_lt _ _) (rotFlagsC_pack g1 res)

theorem sameButAf_flagsRot (g1 : Regs) (res : Nat × Bool) : SameButAf g1 (flagsRot g1 res true) :=
  (sameButAf_flagsRotC g1 res).trans (sameButAf_testZero _ _)

theorem sim_af_regs {g g' : Regs} {s s' : St β} (h : Sim g s) (hr : ∀ j, 0 ≠ j → 6 ≠ j → get s' j = get s j)
    (hsz : s'.r.size = 16) (hg : SameButAf g g') (haf : (get s' 0).toNat % 65536 = g'.af % 65536) : Sim g' s' := by
  obtain ⟨e1, e2, e3, e4, e5, e6⟩ := hg
  refine ⟨haf, ?_, ?_, ?_, ?_, ?_, ?_, hsz⟩
  · rw [hr 1 (by decide) (by decide), e3]; exact h.hl
  · rw [hr 2 (by decide) (by decide), e2]; exact h.de
  · rw [hr 3 (by decide) (by decide), e1]; exact h.bc
  · rw [hr 12 (by decide) (by decide), e4]; exact h.sp
  · rw [hr 13 (by decide) (by decide), e5]; exact h.ip
  · rw [hr 15 (by decide) (by decide), e6]; exact h.cy

theorem sim_af {g g' : Regs} {s s' : St β} (h : Sim g s) (hf : Frame06 s s') (hg : SameButAf g g')
    (haf : (get s' 0).toNat % 65536 = g'.af % 65536) : Sim g' s' ∧ Untouched s s' :=
  ⟨sim_af_regs h hf.regs hf.size hg haf, hf.bus, hf.stack, hf.regs 14 (by decide) (by decide)⟩

theorem untouched_of_frame {st s : St β} (hr : ∀ j, 0 ≠ j → get s j = get st j) (hb : s.bus = st.bus) (hst : s.stack = st.stack) :
    Untouched st s := ⟨hb, hst, hr 14 (by decide)⟩

theorem sim_af0 {g g' : Regs} {s s' : St β} (h : Sim g s) (hr : ∀ j, 0 ≠ j → get s' j = get s j) (hsz : s'.r.size = 16)
    (hg : SameButAf g g') (haf : (get s' 0).toNat % 65536 = g'.af % 65536) : Sim g' s' :=
  sim_af_regs h (fun j h0 _ => hr j h0) hsz hg haf

theorem af_setReg_lo (g : Regs) (r : Reg8) (x : Nat) : (setReg g r x).af % 256 = g.af % 256 := by
  cases r
  · show setHi g.af x % 256 = _; rw [setHi_eq]; omega
  all_goals rfl

theorem getReg_af (g : Regs) (af' : Nat) (r : Reg8) (hA : af' / 256 % 256 = g.af / 256 % 256) :
    getReg { g with af := af' } r = getReg g r := by
  cases r
  · show getHi af' = getHi g.af; rw [getHi_eq, getHi_eq, hA]
  all_goals rfl

/-- the flag byte the host computes for ADD / ADC equals the interpreter's -/
theorem fAdd_eq (f : Nat) (z h c : Bool) :
    ((f &&& 0x0f) ||| (((if z then 0x80 else 0) + (if h then 0x20 else 0) + (if c then 0x10 else 0)) &&& 0xf0)) =
    ((((f &&& 0x0f) ||| (if c then 0x10 else 0)) ||| (if h then 0x20 else 0)) ||| (if z then 0x80 else 0)) := by
  cases c <;> cases h <;> cases z <;> simp [Nat.or_assoc]

theorem and_or_mask (f keep b m : Nat) : ((f &&& keep) ||| b) &&& m = (f &&& (keep &&& m)) ||| (b &&& m) := by
  rw [Nat.and_or_distrib_right, Nat.and_assoc]

theorem and_0f (a : Nat) : a &&& 0x0f = a % 16 := Nat.and_two_pow_sub_one_eq_mod a 4

theorem bit4_byte (x : Nat) (hx : x < 256) : (x &&& 0x10 != 0) = decide (x % 32 ≥ 16) :=
  of_decide_eq_true (Enum.forall_lt_of_allRange (fun x => decide ((x &&& 0x10 != 0) = decide (x % 32 ≥ 16))) 8 (by decide +kernel) x hx)

theorem halfAdd_eq (a v cin : Nat) (hc : cin ≤ 1) :
    (((a &&& 0x0f) + (v &&& 0x0f) + cin) &&& 0x10 != 0) = decide (a % 16 + v % 16 + cin ≥ 16) := by
  rw [and_0f, and_0f, bit4_byte _ (by omega)]
  apply decide_eq_decide.mpr
  omega

theorem conv_carryAdd (a v : Nat) (fl : Flags) :
    conv (aluOp .add 8 a v fl).2 = (if (carryAdd a v).1 == 0 then 0x80 else 0) + (if (carryAdd a v).2.2 then 0x20 else 0) +
      (if (carryAdd a v).2.1 then 0x10 else 0) := by
  have h2 : (carryAdd a v).2.2 = decide (a % 16 + v % 16 + 0 ≥ 16) := halfAdd_eq a v 0 (by decide)
  have h3 : (carryAdd a v).2.1 = decide (a + v + 0 ≥ 256) := show decide (a + v > 255) = _ from decide_eq_decide.mpr (by omega)
  rw [h2, h3]; rfl

theorem step_aop_sim (B : BusOps β) {op : AluOp} {ins : Instr} {rd : St β → Nat} (hins : IsAOp B op ins rd) {v : Nat} {g : Regs}
    {st s1 : St β} {len : Nat} (hs : Sim g st) (hv : rd st = v) (hlt : (aluOp op 8 (getReg g .A) v st.fl).1 < 256)
    (h : step B st ins len = .ok s1) :
    Sim (if op == .cmp then g else setReg g .A (aluOp op 8 (getReg g .A) v st.fl).1) s1 ∧ Untouched st s1 ∧
      s1.fl = (aluOp op 8 (getReg g .A) v st.fl).2 := by
  rw [hins st len, hv, show get8 st (.hi 0) = getReg g .A from get8_sim hs .A] at h
  by_cases hc : (op == .cmp) = true
  · rw [if_pos hc] at h ⊢
    cases Except.ok.inj h
    exact ⟨sim_fl (sim_pc hs _) _, ⟨rfl, rfl, rfl⟩, rfl⟩
  · rw [if_neg hc] at h ⊢
    cases Except.ok.inj h
    exact ⟨sim_fl (set8_sim (sim_pc hs _) .A _ hlt) _, ⟨bus_set8 _ _ _, stack_set8 _ _ _, get_set8_ne _ _ _ _ (by decide)⟩, rfl⟩

theorem pipe_sim (B : BusOps β) (keep take : Nat) (hk : keep < 256) (ht : take < 256) (o : Nat → Nat) (e : Nat) (g1 : Regs)
    (s1 s' : St β) (hs : Sim g1 s1) (hex : execList B e (pipeAt o keep take) s1 = .ok s') :
    (get s' 0).toNat % 65536 = getReg g1 .A * 256 + ((g1.af % 256 &&& keep) ||| (conv s1.fl &&& take)) ∧ Frame06 s1 s' := by
  obtain ⟨hv, hf, hb, hst, hsz⟩ := flag_pipe B keep take hk ht (o 1) (o 2) (o 3) (o 4) (o 5) (o 6) (o 7) (o 8) (o 9) e s1 s' hs.size hex
  refine ⟨?_, ⟨hf, hb, hst, hsz⟩⟩
  rw [hv]
  exact pipe_low16 _ keep _ _ _ hk (Nat.lt_of_le_of_lt Nat.and_le_left (conv_lt s1.fl)) (Nat.mod_lt _ (by decide)) (getReg_lt g1 .A)
    (hs.af.trans (af_split g1))

/-- `tail`, the instructions after the conversion, acts on al alone: as `φ` on the F byte -/
def AlTail (B : BusOps β) (e : Nat) (tail : List (Nat × Instr)) (φ : Nat → Nat) : Prop :=
  ∀ (s s' : St β) (a f : Nat), s.r.size = 16 → a < 256 → f < 256 → (get s 0).toNat % 65536 = a * 256 + f →
    execList B e tail s = .ok s' →
    (get s' 0).toNat % 65536 = a * 256 + φ f ∧ φ f < 256 ∧ (∀ j, 0 ≠ j → get s' j = get s j) ∧ s'.bus = s.bus ∧
      s'.stack = s.stack ∧ s'.r.size = 16

theorem alTail_nil (B : BusOps β) (e : Nat) : AlTail B e [] id := fun s s' a f hsz _ hf hx hex => by
  cases execList_nil B _ _ _ hex
  exact ⟨hx, hf, fun _ _ => rfl, rfl, rfl, hsz⟩

theorem alTail_cons (B : BusOps β) {e o : Nat} {op : AluOp} {k : Nat} {rest : List (Nat × Instr)} {φ : Nat → Nat}
    (hop : op = .and ∨ op = .or ∨ op = .xor) (hk : k < 256) (h : AlTail B e rest φ) :
    AlTail B e ((o, .alu8i op (.lo 0) k) :: rest) (fun f => φ (bitop op f k)) := by
  intro s s' a f hsz ha hf hx hex
  obtain ⟨s1, h1, hex⟩ := execList_cons B _ _ _ _ _ _ hex
  obtain ⟨x1, r1, b1, k1, z1⟩ := step_al B op hop k hk s s1 _ hsz h1
  rw [show (get s 0).toNat / 256 % 256 = a by omega, show (get s 0).toNat % 256 = f by omega] at x1
  obtain ⟨x2, l2, r2, b2, k2, z2⟩ := h s1 s' a _ z1 ha (bitop_lt op f k hf hk) x1 hex
  exact ⟨x2, l2, fun j hj => (r2 j hj).trans (r1 j hj), b2.trans b1, k2.trans k1, z2⟩

theorem alTail_sim (B : BusOps β) {e : Nat} {tail : List (Nat × Instr)} {φ : Nat → Nat} (htail : AlTail B e tail φ) {g1 g' : Regs}
    {f' : Nat} {s1 s3 : St β} (hs : Sim g1 s1) (hg : SameButAf g1 g') (haf : g'.af = getReg g1 .A * 256 + f')
    (hF : φ (g1.af % 256) = f') (hex : execList B e tail s1 = .ok s3) : Sim g' s3 ∧ Untouched s1 s3 := by
  obtain ⟨hx, hlt, hr, hb, hst, hsz⟩ := htail s1 s3 _ _ hs.size (getReg_lt g1 .A) (Nat.mod_lt _ (by decide))
    (hs.af.trans (af_split g1)) hex
  rw [hF] at hx hlt
  exact ⟨sim_af0 hs hr hsz hg (by rw [hx, haf]; omega), untouched_of_frame hr hb hst⟩

/-- the flag conversion and the instructions after it, from a state related to `g1`: when the F byte this computes is that
of `g'` (A and the rest as in `g1`), the end state is related to `g'` -/
theorem pipe_tail_sim (B : BusOps β) {keep take : Nat} (hk : keep < 256) (ht : take < 256) (o : Nat → Nat) {e : Nat}
    {tail : List (Nat × Instr)} {φ : Nat → Nat} (htail : AlTail B e tail φ) {g1 g' : Regs} {f' : Nat} {s1 s3 : St β}
    (hs : Sim g1 s1) (hg : SameButAf g1 g') (haf : g'.af = getReg g1 .A * 256 + f')
    (hF : φ ((g1.af % 256 &&& keep) ||| (conv s1.fl &&& take)) = f')
    (hex : execList B e (pipeAt o keep take ++ tail) s1 = .ok s3) : Sim g' s3 ∧ Untouched s1 s3 := by
  obtain ⟨s2, hex2, hext⟩ := execList_append B e _ _ s1 s3 hex
  obtain ⟨hx, hfr⟩ := pipe_sim B keep take hk ht o _ g1 s1 s2 hs hex2
  have hA := getReg_lt g1 .A
  obtain ⟨hx3, hlt, hr3, hb3, hst3, hsz3⟩ := htail s2 s3 _ _ hfr.size hA
    (Nat.or_lt_two_pow (n := 8) (Nat.lt_of_le_of_lt Nat.and_le_right hk) (Nat.lt_of_le_of_lt Nat.and_le_right ht)) hx hext
  rw [hF] at hx3 hlt
  exact sim_af hs (frame06_al hfr hr3 hb3 hst3 hsz3) hg (by rw [hx3, haf]; omega)

theorem pipe_al_sim (B : BusOps β) (op : AluOp) (hop : op = .and ∨ op = .or ∨ op = .xor) (keep take m : Nat)
    (hk : keep < 256) (ht : take < 256) (hm : m < 256) (o : Nat → Nat) (e : Nat) {g1 g' : Regs} {f' : Nat} {s1 s3 : St β}
    (hs : Sim g1 s1) (hg : SameButAf g1 g') (haf : g'.af = getReg g1 .A * 256 + f')
    (hF : bitop op ((g1.af % 256 &&& keep) ||| (conv s1.fl &&& take)) m = f')
    (hex : execList B e (pipeAt o keep take ++ [(o 10, .alu8i op (.lo 0) m)]) s1 = .ok s3) : Sim g' s3 ∧ Untouched s1 s3 :=
  pipe_tail_sim B hk ht o (alTail_cons B hop hm (alTail_nil B e)) hs hg haf hF hex

theorem add_body (B : BusOps β) (ins : Instr) (rd : St β → Nat) (hins : IsAOp B .add ins rd) (v : Nat) (o : Nat → Nat) (e : Nat) (g : Regs) (st s1 : St β) (hs : Sim g st)
    (hv : rd st = v)
    (hex : execList B e ((o 0, ins) :: pipeAt o 15 240) st = .ok s1) :
    Sim (opAdd g v) s1 ∧ Untouched st s1 := by
  obtain ⟨s0, h0, hex⟩ := execList_cons B _ _ _ _ _ _ hex
  obtain ⟨hs0, hu0, hfl⟩ := step_aop_sim B hins hs hv (Nat.mod_lt _ (by decide)) h0
  have hx : (aluOp .add 8 (getReg g .A) v st.fl).1 = (carryAdd (getReg g .A) v).1 :=
    show (getReg g .A + v + 0) % 2 ^ 8 = (getReg g .A + v) % 256 from rfl
  rw [hx] at hs0
  obtain ⟨q1, q2⟩ := pipe_tail_sim B (keep := 15) (take := 240) (by decide) (by decide) o (alTail_nil B e) hs0 (sameButAf_flagsAdd _ _)
    (flagsAdd_af _ (carryAdd (getReg g .A) v)) (by rw [hfl, conv_carryAdd]; exact fAdd_eq _ _ _ _) (by rw [List.append_nil]; exact hex)
  exact ⟨q1, hu0.trans q2⟩

/-- offsets of the instructions of an ALU template whose first instruction is `n0` bytes long -/
def aluOff (n0 : Nat) (k : Nat) : Nat := [0, n0, n0 + 1, n0 + 2, n0 + 5, n0 + 7, n0 + 10, n0 + 16, n0 + 21, n0 + 27].getD k 0

def opcodeAdd (r : Reg8) : Nat := 0x80 + r8code r

theorem table_add (r : Reg8) (b1 b2 : Nat) :
    decodeCode (Gen.emitOp (opcodeAdd r)) =
      some (((0, .alu8 .add (.hi 0) (hostR8 r)) :: pipeAt (aluOff 2) 15 240) ++ [(31, addIp 1), (35, addCy 1)]) ∧
    bytesOf (Gen.emitOp (opcodeAdd r)) = 39 ∧ Gen.decode (opcodeAdd r) b1 b2 = (.Add8 .A r, 1, 4) := by
  refine ⟨?_, ?_, by cases r <;> rfl⟩ <;> revert r <;> exact forall_reg8 (by decide +kernel)

/-- **ADD A,r** (7 registers): all states -/
theorem sim_add (r : Reg8) (b1 b2 : Nat) : Simulates (opcodeAdd r) b1 b2 :=
  Simulates.intro (table_add r b1 b2) rfl (by decide) (by decide) rfl
    fun B g _ _ hs _ _ hex => ⟨_, fun _ => rfl, add_body B _ _ (isAOp_reg B .add (hostR8 r)) (getReg g r) (aluOff 2) 31 g _ _ hs (get8_sim hs r) hex⟩

end GbVerif.X86
