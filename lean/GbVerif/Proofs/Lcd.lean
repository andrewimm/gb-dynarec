import GbVerif.Model.Lcd
import GbVerif.Spec.Lcd
import GbVerif.Proofs.Timer
/-!
Symbolic lemmas for C14: the tick of the model factors through a function on positions
(`stepOf`), which registers are untouched, how flags accumulate (`run_add`, from the generic `run_add_of_step` of
Proofs/Timer.lean), arithmetic facts about `sched`.  That `stepOf` follows the schedule is `stepOf_sched` in
Proofs/LcdEnum.lean.
-/
namespace GbVerif.LcdProofs
open GbVerif.Lcd GbVerif.LcdSpec

def pos (s : State) : Pos := ⟨s.line, s.mode.toNat, s.dots⟩

def enOf (s : State) : Enables := ⟨s.irqLyc, s.irqM2, s.irqM1, s.irqM0⟩

/-- what one tick does as a function of the position only: next position, whether
`check_mode_interrupt` / `check_current_line` are consulted, whether VBlank is raised -/
structure Step where
  next : Pos
  chkMode : Bool
  chkLine : Bool
  vbl : Bool
deriving DecidableEq

def stepOf (p : Pos) : Step :=
  let d := p.dots + 4
  match p.mode with
  | 0 =>
    if d ≥ 188 then
      if p.line < 143 then ⟨⟨p.line + 1, 2, d - 188⟩, true, true, false⟩
      else ⟨⟨144, 1, d - 188⟩, true, true, true⟩
    else ⟨⟨p.line, 0, d⟩, false, false, false⟩
  | 1 =>
    if d ≥ 456 then
      if p.line < 153 then ⟨⟨p.line + 1, 1, d - 456⟩, false, true, false⟩
      else ⟨⟨0, 2, d - 456⟩, true, true, false⟩
    else ⟨⟨p.line, 1, d⟩, false, false, false⟩
  | 2 =>
    if d ≥ 80 then ⟨⟨p.line, 3, d - 80⟩, false, false, false⟩
    else ⟨⟨p.line, 2, d⟩, false, false, false⟩
  | _ =>
    if d ≥ 188 then ⟨⟨p.line, 0, d - 188⟩, true, false, false⟩
    else ⟨⟨p.line, 3, d⟩, false, false, false⟩

/-- `stat()` or `empty()` -/
def ofB (b : Bool) : Flags := if b then fStat else fEmpty

theorem checkCurrentLine_eq (s : State) :
    checkCurrentLine s = ofB (s.line == s.lyc && s.irqLyc) := by
  simp only [checkCurrentLine, ofB]
  by_cases h : s.lyc = s.line
  · simp [h]
  · have : ¬ s.line = s.lyc := fun h' => h h'.symm
    simp [h, this]

theorem checkModeInterrupt_eq (s : State) :
    checkModeInterrupt s = ofB ((enOf s).forMode s.mode.toNat) := by
  obtain ⟨m, d, l, c, e1, e2, e3, e4⟩ := s
  cases m <;> cases e2 <;> cases e3 <;> cases e4 <;> rfl

/-- One tick as a function of `stepOf` of the position: where it goes, that LYC and the enables stay, and
the flags it returns.  The one place where `tick4` is unfolded. -/
theorem tick4_eq (s : State) :
    pos (tick4 s).1 = (stepOf (pos s)).next ∧ (tick4 s).1.lyc = s.lyc ∧ enOf (tick4 s).1 = enOf s ∧
    (tick4 s).2 =
      ofB ((stepOf (pos s)).chkMode && (enOf s).forMode (stepOf (pos s)).next.mode) |||
      ofB ((stepOf (pos s)).chkLine && (stepOf (pos s)).next.line == s.lyc && s.irqLyc) |||
      (if (stepOf (pos s)).vbl then fVblank else fEmpty) := by
  have h0 : ofB false = 0 := rfl
  obtain ⟨m, d, l, c, e1, e2, e3, e4⟩ := s
  cases m
  · by_cases h1 : d + 4 ≥ 188 <;> by_cases h2 : l < 143 <;>
      simp [tick4, stepOf, pos, Mode.toNat, checkCurrentLine_eq, checkModeInterrupt_eq, h1, h2, enOf, h0, fEmpty]
  · by_cases h1 : d + 4 ≥ 456 <;> by_cases h2 : l < 153 <;>
      simp [tick4, stepOf, pos, Mode.toNat, checkCurrentLine_eq, checkModeInterrupt_eq, h1, h2, enOf, h0, fEmpty]
  · by_cases h1 : d + 4 ≥ 80 <;> simp [tick4, stepOf, pos, Mode.toNat, h1, enOf, h0, fEmpty]
  · by_cases h1 : d + 4 ≥ 188 <;>
      simp [tick4, stepOf, pos, Mode.toNat, checkModeInterrupt_eq, h1, enOf, h0, fEmpty]

theorem hasVblank_or (a b : Flags) : hasVblank (a ||| b) = (hasVblank a || hasVblank b) := by
  simp only [hasVblank, Nat.testBit_or]
theorem hasStat_or (a b : Flags) : hasStat (a ||| b) = (hasStat a || hasStat b) := by
  simp only [hasStat, Nat.testBit_or]
theorem hasVblank_ofB (b : Bool) : hasVblank (ofB b) = false := by cases b <;> rfl
theorem hasStat_ofB (b : Bool) : hasStat (ofB b) = b := by cases b <;> rfl
theorem hasVblank_empty : hasVblank fEmpty = false := rfl
theorem hasStat_empty : hasStat fEmpty = false := rfl
theorem hasVblank_zero : hasVblank 0 = false := rfl
theorem hasStat_zero : hasStat 0 = false := rfl
theorem hasVblank_vblank : hasVblank fVblank = true := rfl
theorem hasStat_vblank : hasStat fVblank = false := rfl
theorem ofB_lt (b : Bool) : ofB b < 4 := by cases b <;> decide

theorem tick4_vbl (s : State) : hasVblank (tick4 s).2 = (stepOf (pos s)).vbl := by
  rw [(tick4_eq s).2.2.2, hasVblank_or, hasVblank_or, hasVblank_ofB, hasVblank_ofB]
  cases (stepOf (pos s)).vbl <;> rfl

theorem tick4_stat (s : State) :
    hasStat (tick4 s).2 =
      (((stepOf (pos s)).chkMode && (enOf s).forMode (stepOf (pos s)).next.mode) ||
       ((stepOf (pos s)).chkLine && (stepOf (pos s)).next.line == s.lyc && s.irqLyc)) := by
  rw [(tick4_eq s).2.2.2, hasStat_or, hasStat_or, hasStat_ofB, hasStat_ofB]
  cases (stepOf (pos s)).vbl <;> simp [hasStat_empty, hasStat_vblank]

theorem tick4_flags_lt (s : State) : (tick4 s).2 < 4 := by
  rw [(tick4_eq s).2.2.2]
  refine Nat.or_lt_two_pow (n := 2) (Nat.or_lt_two_pow (n := 2) (ofB_lt _) (ofB_lt _)) ?_
  cases (stepOf (pos s)).vbl <;> decide

theorem runAcc_acc (n : Nat) : ∀ (s : State) (acc : Flags),
    runAcc n s acc = ((runAcc n s 0).1, acc ||| (runAcc n s 0).2) := by
  induction n with
  | zero => intro s acc; simp [runAcc]
  | succ n ih =>
    intro s acc
    simp only [runAcc]
    rw [ih (tick4 s).1 (acc ||| (tick4 s).2), ih (tick4 s).1 (0 ||| (tick4 s).2)]
    simp [Nat.or_assoc]

theorem run_zero (s : State) : run 0 s = (s, 0) := rfl

theorem run_succ (n : Nat) (s : State) :
    run (n + 1) s = ((run n (tick4 s).1).1, (tick4 s).2 ||| (run n (tick4 s).1).2) := by
  simp only [run, runAcc, fEmpty]
  rw [runAcc_acc]
  simp

theorem run_add (a : Nat) : ∀ (b : Nat) (s : State),
    run (a + b) s = ((run b (run a s).1).1, (run a s).2 ||| (run b (run a s).1).2) :=
  run_add_of_step (· ||| ·) 0 run tick4 run_zero run_succ Nat.or_assoc Nat.zero_or a

theorem run_regs (n : Nat) : ∀ s : State,
    (run n s).1.lyc = s.lyc ∧ enOf (run n s).1 = enOf s := by
  induction n with
  | zero => intro s; simp [run_zero]
  | succ n ih =>
    intro s
    rw [run_succ]
    have := ih (tick4 s).1
    have h := tick4_eq s
    simp only [this, h.2.1, h.2.2.1, and_self]

theorem run_flags_lt (n : Nat) : ∀ s : State, (run n s).2 < 4 := by
  induction n with
  | zero => intro s; simp [run_zero]
  | succ n ih =>
    intro s
    rw [run_succ]
    exact Nat.or_lt_two_pow (n := 2) (tick4_flags_lt s) (ih _)

/-- `get_lcd_status` as a sum of disjoint bits -/
def statOf (m : Mode) (e1 e2 e3 e4 b : Bool) : Nat :=
  let status := 0
  let status := if e1 then status ||| 0x40 else status
  let status := if e2 then status ||| 0x20 else status
  let status := if e3 then status ||| 0x10 else status
  let status := if e4 then status ||| 0x08 else status
  let status := if b then status ||| 4 else status
  status ||| m.toNat

theorem getStat_eq (s : State) : getStat s = statOf s.mode s.irqLyc s.irqM2 s.irqM1 s.irqM0 (s.line == s.lyc) := by
  simp only [getStat, statOf, (BEq.comm : (s.lyc == s.line) = (s.line == s.lyc))]

theorem statOf_bits : ∀ (m : Mode) (e1 e2 e3 e4 b : Bool),
    (statOf m e1 e2 e3 e4 b % 4 = m.toNat ∧ (statOf m e1 e2 e3 e4 b).testBit 2 = b ∧
     (statOf m e1 e2 e3 e4 b).testBit 3 = e4 ∧ (statOf m e1 e2 e3 e4 b).testBit 4 = e3 ∧
     (statOf m e1 e2 e3 e4 b).testBit 5 = e2 ∧ (statOf m e1 e2 e3 e4 b).testBit 6 = e1 ∧
     statOf m e1 e2 e3 e4 b < 128) ∧
    statOf m e1 e2 e3 e4 b % 8 = m.toNat + (if b then 4 else 0) := by
  intro m
  cases m <;> decide

theorem sched_mod (t : Nat) : sched t = sched (t % 70224) := by
  simp only [sched, Nat.mod_mod]

theorem sched_period (t : Nat) : sched (t + 70224) = sched t := by
  rw [sched_mod (t + 70224), sched_mod t, Nat.add_mod_right]

theorem sched_tick_mod (k : Nat) : sched (4 * k) = sched (4 * (k % 17556)) := by
  rw [sched_mod (4 * k), sched_mod (4 * (k % 17556))]
  congr 1
  omega

theorem sched_tick_succ_mod (k : Nat) : sched (4 * k + 4) = sched (4 * (k % 17556) + 4) := by
  rw [sched_mod (4 * k + 4), sched_mod (4 * (k % 17556) + 4)]
  congr 1
  omega

/-- `sched` in terms of the property sentence (`lyAt`, clock within the line) -/
def schedAlt (t : Nat) : Pos :=
  if lyAt t ≥ 144 then ⟨lyAt t, 1, t % 456⟩
  else if t % 456 < 80 then ⟨lyAt t, 2, t % 456⟩
  else if t % 456 < 268 then ⟨lyAt t, 3, t % 456 - 80⟩ else ⟨lyAt t, 0, t % 456 - 268⟩

theorem sched_alt (t : Nat) : sched t = schedAlt t := by
  have hA : t % 70224 < 4560 → lyAt t = 144 + (t % 70224) / 456 ∧ (t % 70224) % 456 = t % 456 := by
    unfold lyAt; omega
  have hB : ¬ t % 70224 < 4560 → lyAt t = (t % 70224 - 4560) / 456 ∧
      (t % 70224 - 4560) % 456 = t % 456 ∧ ¬ lyAt t ≥ 144 := by
    unfold lyAt; omega
  by_cases h1 : t % 70224 < 4560
  · obtain ⟨e1, e2⟩ := hA h1
    have h2 : lyAt t ≥ 144 := by omega
    simp only [sched, h1, ↓reduceIte, schedAlt, h2]
    rw [e1, e2]
  · obtain ⟨e1, e2, h2⟩ := hB h1
    simp only [sched, h1, ↓reduceIte, schedAlt, h2]
    rw [e1, e2]

theorem sched_line (t : Nat) : (sched t).line = lyAt t := by
  rw [sched_alt, schedAlt]
  split
  · rfl
  · split
    · rfl
    · split <;> rfl

theorem sched_mode (t : Nat) : (sched t).mode = modeAt t := by
  rw [sched_alt, schedAlt, modeAt]
  split
  · rfl
  · simp only []
    split
    · rfl
    · split <;> rfl

end GbVerif.LcdProofs
