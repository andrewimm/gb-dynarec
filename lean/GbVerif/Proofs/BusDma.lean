import GbVerif.Proofs.BusWf
/-!
OAM-DMA lemmas over the bus model: one copy step in closed form, the copy loop (what is copied, what is left
alone), and batch additivity of `runDma`.

`Bus.dmaLoop` / `Bus.runDma` are the copy alone (C16's first part, `C11.Op.clock`).  The machine runs `Sys.dev`, whose
loop `Sys.dmaLoop` lets the devices catch up after every byte; its lemmas are in `SysTotal.lean` and `SysBatch.lean`
(namespace `SysProofs`).
-/
namespace GbVerif.BusProofs
open GbVerif.Bus

theorem read_set_dma (s : State) (d : Option (Nat × Nat)) (a : Nat) : read { s with dma := d } a = read s a := rfl

/-- Reading where a byte was stored into the array behind a region: `x` and `y` are the reads of one address of the
region after and before the store. -/
theorem read_sib {x y : Except Panic Nat} {arr : Array Nat} {base i a : Nat} (v : Nat) (hi : i < arr.size) (hb : base ≤ a)
    (hx : x = .ok ((arr.setIfInBounds i v).getD (a - base) 0)) (hy : y = .ok (arr.getD (a - base) 0)) :
    x = if a = base + i then .ok v else y := by
  rw [hx, hy, getD_sib]
  by_cases e : a = base + i
  · rw [if_pos e, if_pos ⟨by omega, hi⟩]
  · rw [if_neg e, if_neg (by omega)]

/-- a byte stored into OAM reads back at its address and is seen at no other (I/O window included) -/
theorem oam_write_read {s : State} (wf : WF s) {i a0 : Nat} (v : Nat) (hi : i < 0xa0) (h0 : a0 = 0xfe00 + i) (a : Nat) :
    read { s with oam := s.oam.setIfInBounds i v } a = if a = a0 then .ok v else read s a := by
  subst h0
  by_cases ho : 0xfe00 ≤ a ∧ a < 0xfea0
  · exact read_sib v (by rw [wf.oam]; exact hi) ho.1 (read_oam_wf (wf.congr (ho := by simp)) ho.1 ho.2)
      (read_oam_wf wf ho.1 ho.2)
  · rw [if_neg (by omega)]; exact read_congr (hoam := fun h => absurd h ho)

theorem dmaCopyByte_eq {s : State} (wf : WF s) (source off : Nat) (ho : off < 0xa0) :
    ∃ v, read s ((source + off) % 65536) = .ok v ∧
      dmaCopyByte s source off = .ok { s with oam := s.oam.setIfInBounds off v } := by
  obtain ⟨v, hv⟩ := read_total wf (a := (source + off) % 65536) (Nat.mod_lt _ (by decide))
  refine ⟨v, hv, ?_⟩
  unfold dmaCopyByte
  rw [hv]
  show write s (0xfe00 + off) v = _
  rw [write_oam_wf wf v (by omega) (by omega), show 0xfe00 + off - 0xfe00 = off by omega]

/-- What a run of `n` copy steps does: it ends at offset `off + n`; OAM bytes `off … off+n-1` hold what the
source addresses read in the state *before* the run; every other address (all of memory, the I/O registers, the
rest of OAM) reads as before; every component of the state other than `oam` is untouched. -/
theorem dmaLoop_spec (page : Nat) (hp : page < 256) : ∀ (n : Nat) {s : State} (_ : WF s) (off : Nat), off + n ≤ 0xa0 →
    ∃ o, o.size = s.oam.size ∧ dmaLoop s (page * 256) off n = .ok ({ s with oam := o }, off + n) ∧
      (∀ a, a < 65536 → ¬ (0xfe00 + off ≤ a ∧ a < 0xfe00 + off + n) → read { s with oam := o } a = read s a) ∧
      (∀ i, off ≤ i → i < off + n → read { s with oam := o } (0xfe00 + i) = read s (page * 256 + i))
  | 0, s, _, off, _ => ⟨s.oam, rfl, rfl, fun _ _ _ => rfl, fun i h1 h2 => by omega⟩
  | n+1, s, wf, off, h => by
    obtain ⟨v, hv, hstep⟩ := dmaCopyByte_eq wf (page * 256) off (by omega)
    have wf1 : WF { s with oam := s.oam.setIfInBounds off v } := wf.congr (ho := by simp)
    have hw := oam_write_read wf v (show off < 0xa0 by omega) rfl
    obtain ⟨o, hsz, hloop, hframe, hcopy⟩ := dmaLoop_spec page hp n wf1 (off + 1) (by omega)
    refine ⟨o, by rw [hsz]; simp, ?_, ?_, ?_⟩
    · unfold dmaLoop; rw [hstep]
      show dmaLoop _ _ (off + 1) n = _
      rw [hloop, show off + 1 + n = off + (n + 1) by omega]
    · intro a ha hout
      exact (hframe a ha (by omega)).trans ((hw a).trans (if_neg (by omega)))
    · intro i h1 h2
      by_cases hi : i = off
      · subst hi
        exact (hframe (0xfe00 + i) (by omega) (by omega)).trans
          (((hw _).trans (if_pos rfl)).trans (by rw [← hv, Nat.mod_eq_of_lt (by omega)]))
      · exact (hcopy i (by omega) (by omega)).trans ((hw _).trans (if_neg (by omega)))

/-! ### batch additivity (no well-formedness needed: panics propagate identically) -/

theorem dmaLoop_add (s : State) (source off n1 n2 : Nat) :
    dmaLoop s source off (n1 + n2) = (dmaLoop s source off n1 >>= fun p => dmaLoop p.1 source p.2 n2) := by
  induction n1 generalizing s off with
  | zero => simp only [Nat.zero_add, dmaLoop]; rfl
  | succ n ih =>
    rw [show n + 1 + n2 = (n + n2) + 1 by omega, dmaLoop.eq_2, dmaLoop.eq_2]
    cases h : dmaCopyByte s source off with
    | error e => rfl
    | ok s1 => exact ih s1 (off + 1)

theorem dmaLoop_off (source : Nat) : ∀ (n : Nat) (s : State) (off : Nat) (s' : State) (o : Nat),
    dmaLoop s source off n = .ok (s', o) → o = off + n
  | 0, s, off, s', o, h => by simp only [dmaLoop] at h; injection h with h; injection h with _ h; omega
  | n+1, s, off, s', o, h => by
    unfold dmaLoop at h
    cases h1 : dmaCopyByte s source off with
    | error e => rw [h1] at h; cases h
    | ok s1 =>
      rw [h1] at h
      have := dmaLoop_off source n s1 (off + 1) s' o h
      omega

/-- the copy loop neither reads nor (below offset 160) writes the DMA state -/
theorem dmaCopyByte_set_dma (s : State) (d : Option (Nat × Nat)) (source off : Nat) (ho : off < 0xa0) :
    dmaCopyByte { s with dma := d } source off = (dmaCopyByte s source off >>= fun s' => pure { s' with dma := d }) := by
  unfold dmaCopyByte
  rw [read_set_dma]
  cases read s ((source + off) % 65536) with
  | error e => rfl
  | ok v =>
    show write { s with dma := d } (0xfe00 + off) v = (write s (0xfe00 + off) v >>= fun s' => pure { s' with dma := d })
    rw [write_oam _ _ _ (by omega) (by omega), write_oam _ _ _ (by omega) (by omega)]
    show (wr "oam" s.oam _ v >>= _) = _
    cases wr "oam" s.oam ((0xfe00 + off) &&& 0xff) v with
    | error e => rfl
    | ok x => rfl

theorem dmaLoop_set_dma (d : Option (Nat × Nat)) (source : Nat) : ∀ (n : Nat) (s : State) (off : Nat), off + n ≤ 0xa0 →
    dmaLoop { s with dma := d } source off n =
      (dmaLoop s source off n >>= fun p => pure ({ p.1 with dma := d }, p.2))
  | 0, s, off, _ => rfl
  | n+1, s, off, h => by
    unfold dmaLoop
    rw [dmaCopyByte_set_dma s d source off (by omega)]
    cases dmaCopyByte s source off with
    | error e => rfl
    | ok s1 => exact dmaLoop_set_dma d source n s1 (off + 1) (by omega)

theorem runDma_none {s : State} (h : s.dma = none) (c : Nat) : runDma s c = .ok s := by
  unfold runDma; rw [h]

theorem runDma_some {s : State} {source off : Nat} (h : s.dma = some (source, off)) (c : Nat) :
    runDma s c = (dmaLoop s source off (min (0xa0 - off) (c / 4)) >>= fun p =>
      pure { p.1 with dma := if p.2 < 0xa0 then some (source, p.2) else none }) := by
  unfold runDma; rw [h]

/-! Copy steps of two consecutive batches of `q` and `r` machine cycles from progress `off`, and their clocks. -/

theorem batch_done {off q r : Nat} (hc : 0xa0 - off ≤ q) :
    min (0xa0 - off) q = 0xa0 - off ∧ min (0xa0 - off) (q + r) = 0xa0 - off := by omega

theorem batch_running {off q r : Nat} (hc : ¬ 0xa0 - off ≤ q) :
    min (0xa0 - off) q = q ∧ min (0xa0 - off) (q + r) = q + min (0xa0 - (off + q)) r ∧
    off + q < 0xa0 ∧ off + q + min (0xa0 - (off + q)) r ≤ 0xa0 := by omega

theorem clocks_split {a b : Nat} (ha : a % 4 = 0) : (a + b) / 4 = a / 4 + b / 4 := by omega

theorem clocks_used {a b : Nat} (ha : a % 4 = 0) (m : Nat) :
    a - 4 * (a / 4) = 0 ∧ a + b - 4 * (a / 4 + m) = b - 4 * m := by omega

theorem clocks_rest {a b n : Nat} (ha : a % 4 = 0) (h : n ≤ a / 4) :
    a + b - 4 * n = (a - 4 * n) + b ∧ (a - 4 * n) % 4 = 0 := by omega

/-- **batch additivity**: two consecutive catch-up batches are one batch of the summed length, when the first is a
whole number of machine cycles (as a relation between results, panics included) -/
theorem runDma_add (s : State) (a b : Nat) (ha : a % 4 = 0) :
    (runDma s a >>= fun s1 => runDma s1 b) = runDma s (a + b) := by
  cases hd : s.dma with
  | none => rw [runDma_none hd, runDma_none hd]; exact runDma_none hd b
  | some p =>
    obtain ⟨source, off⟩ := p
    rw [runDma_some hd a, runDma_some hd (a + b), clocks_split ha]
    by_cases hfin : 0xa0 - off ≤ a / 4
    · -- the transfer ends inside the first batch: the second finds `dma = none`
      rw [(batch_done (r := b / 4) hfin).1, (batch_done (r := b / 4) hfin).2]
      cases hl : dmaLoop s source off (0xa0 - off) with
      | error e => rfl
      | ok q =>
        obtain ⟨s1, o⟩ := q
        have := dmaLoop_off source _ s off s1 o hl
        show runDma { s1 with dma := if o < 0xa0 then some (source, o) else none } b =
          Except.ok { s1 with dma := if o < 0xa0 then some (source, o) else none }
        rw [if_neg (by omega)]
        exact runDma_none (s := { s1 with dma := none }) rfl b
    · obtain ⟨e1, e2, e3, e4⟩ := batch_running (r := b / 4) hfin
      rw [e1, e2, dmaLoop_add]
      cases hl : dmaLoop s source off (a / 4) with
      | error e => rfl
      | ok q =>
        obtain ⟨s1, o⟩ := q
        have ho' := dmaLoop_off source _ s off s1 o hl
        subst ho'
        show runDma { s1 with dma := if off + a / 4 < 0xa0 then some (source, off + a / 4) else none } b = _
        rw [if_pos e3, runDma_some rfl b, dmaLoop_set_dma _ _ _ _ _ e4]
        show _ = (dmaLoop s1 source (off + a / 4) _ >>= _)
        cases dmaLoop s1 source (off + a / 4) (min (0xa0 - (off + a / 4)) (b / 4)) with
        | error e => rfl
        | ok r => rfl

/-- closed form of a batch from a well-formed state: progress, what OAM holds afterwards, what is left alone -/
theorem runDma_spec {s : State} (wf : WF s) (page off : Nat) (hp : page < 256) (hd : s.dma = some (page * 256, off))
    (ho : off ≤ 0xa0) (c : Nat) :
    ∃ o, o.size = s.oam.size ∧
      runDma s c = .ok { s with oam := o, dma := if off + c / 4 < 0xa0 then some (page * 256, off + c / 4) else none } ∧
      (∀ a, a < 65536 → ¬ (0xfe00 + off ≤ a ∧ a < 0xfe00 + min (off + c / 4) 0xa0) → read { s with oam := o } a = read s a) ∧
      (∀ i, off ≤ i → i < min (off + c / 4) 0xa0 → read { s with oam := o } (0xfe00 + i) = read s (page * 256 + i)) := by
  obtain ⟨o, hsz, hloop, hframe, hcopy⟩ := dmaLoop_spec page hp (min (0xa0 - off) (c / 4)) wf off (by omega)
  refine ⟨o, hsz, ?_, ?_, ?_⟩
  · rw [runDma_some hd c, hloop]
    show Except.ok _ = _
    by_cases h : off + c / 4 < 0xa0
    · rw [if_pos h, show off + min (0xa0 - off) (c / 4) = off + c / 4 by omega, if_pos h]
    · rw [if_neg h, if_neg (by omega)]
  · intro a ha hout; exact hframe a ha (by omega)
  · intro i h1 h2; exact hcopy i h1 (by omega)

theorem write_keeps_dma {s s' : State} {a v : Nat} (hne : a ≠ 0xff46) (h : write s a v = .ok s') : s'.dma = s.dma :=
  (write_effect h).dma.trans (if_neg hne)

end GbVerif.BusProofs
