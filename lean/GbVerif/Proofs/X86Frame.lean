import GbVerif.Model.X86Sem
import GbVerif.Model.JitCycles
import GbVerif.Model.X86Wf
/-!
The register file of the executable x86-64 subset semantics (`Model/X86Sem.lean`): what the three register writes
(`set`, `set8`, `setSz`) and the helper call `call rax` change and what they leave alone.  `RegUpd ws s s'` says it once for
all components of the state; `Proofs/X86Step.lean` lifts it to one step of any instruction.  Of the bus helpers behind
`call rax`, `helperCall_shape` says how they can fail and how many byte writes they make (`Wrote`).
-/
namespace GbVerif.X86
open GbVerif.JitCycles GbVerif.X86Wf

variable {β : Type}

theorem get_set_ne (s : St β) (i j : Nat) (v : W) (h : i ≠ j) : get (set s i v) j = get s j := by
  unfold get set
  simp only [Array.getD_eq_getD_getElem?]
  rw [Array.getElem?_setIfInBounds_ne h]

theorem get_set_eq (s : St β) (i : Nat) (v : W) (h : i < s.r.size) : get (set s i v) i = v := by
  unfold get set
  simp only [Array.getD_eq_getD_getElem?]
  rw [Array.getElem?_setIfInBounds_self_of_lt h]
  rfl

theorem size_set (s : St β) (i : Nat) (v : W) : (set s i v).r.size = s.r.size := by unfold set; simp

theorem get_of_r {s1 s2 : St β} (h : s1.r = s2.r) (j : Nat) : get s1 j = get s2 j := by unfold get; rw [h]

/-- `s'` is `s` with other contents in the registers `ws` (and possibly other flags, junk source, operand bytes) -/
structure RegUpd (ws : List Nat) (s s' : St β) : Prop where
  size : s'.r.size = s.r.size
  frame : ∀ j, j ∉ ws → get s' j = get s j
  stack : s'.stack = s.stack
  bus : s'.bus = s.bus
  pc : s'.pc = s.pc

theorem RegUpd.refl (ws : List Nat) (s : St β) : RegUpd ws s s := ⟨rfl, fun _ _ => rfl, rfl, rfl, rfl⟩

theorem RegUpd.fl {ws : List Nat} {s s' : St β} (h : RegUpd ws s s') (fl : Flags) : RegUpd ws s { s' with fl := fl } :=
  ⟨h.size, h.frame, h.stack, h.bus, h.pc⟩

theorem RegUpd.trans {l1 l2 : List Nat} {s s1 s2 : St β} (h1 : RegUpd l1 s s1) (h2 : RegUpd l2 s1 s2) :
    RegUpd (l1 ++ l2) s s2 :=
  ⟨h2.size.trans h1.size,
   fun j hj => (h2.frame j fun hm => hj (List.mem_append_right _ hm)).trans (h1.frame j fun hm => hj (List.mem_append_left _ hm)),
   h2.stack.trans h1.stack, h2.bus.trans h1.bus, h2.pc.trans h1.pc⟩

theorem RegUpd.mono {l l' : List Nat} {s s' : St β} (hl : ∀ j ∈ l, j ∈ l') (h : RegUpd l s s') : RegUpd l' s s' :=
  ⟨h.size, fun j hj => h.frame j fun hm => hj (hl j hm), h.stack, h.bus, h.pc⟩

theorem regUpd_set (s : St β) (i : Nat) (v : W) : RegUpd [i] s (set s i v) :=
  ⟨size_set s i v, fun j hj => get_set_ne s i j v fun e => hj (e ▸ List.mem_singleton_self i), rfl, rfl, rfl⟩

theorem regUpd_set8 (s : St β) (r : R8) (v : Nat) : RegUpd [r8reg r] s (set8 s r v) := by
  cases r <;> exact regUpd_set _ _ _

theorem regUpd_setSz (s : St β) (sz : Size) (i v : Nat) : RegUpd [i] s (setSz s sz i v) := by
  cases sz <;> exact regUpd_set _ _ _

/-- the shape of the ALU instructions, which write their destination unless they compare -/
theorem regUpd_ite (c : Bool) {ws : List Nat} {s s' : St β} (h : RegUpd ws s s') :
    RegUpd (if c then [] else ws) s (if c then s else s') := by
  cases c
  · exact h
  · exact RegUpd.refl _ _

theorem get_set8_ne (s : St β) (r : R8) (v j : Nat) (h : r8reg r ≠ j) : get (set8 s r v) j = get s j :=
  (regUpd_set8 s r v).frame j fun hm => h (List.mem_singleton.mp hm).symm

theorem get_setSz_ne (s : St β) (sz : Size) (i v j : Nat) (h : i ≠ j) : get (setSz s sz i v) j = get s j :=
  (regUpd_setSz s sz i v).frame j fun hm => h (List.mem_singleton.mp hm).symm

theorem size_set8 (s : St β) (r : R8) (v : Nat) : (set8 s r v).r.size = s.r.size := (regUpd_set8 s r v).size
theorem size_setSz (s : St β) (sz : Size) (i v : Nat) : (setSz s sz i v).r.size = s.r.size := (regUpd_setSz s sz i v).size

theorem regUpd_junk (s : St β) : RegUpd [] s (nextJunk s).2 := ⟨rfl, fun _ _ => rfl, rfl, rfl, rfl⟩

theorem clobber_regUpd : ∀ (l : List Nat) (s0 v : St β),
    forIn l s0 (fun i s => (Except.ok (ForInStep.yield (set (nextJunk s).2 i (nextJunk s).1)) : Except Fault _)) = Except.ok v →
    RegUpd l s0 v := by
  intro l
  induction l with
  | nil => intro s0 v h; simp only [List.forIn_nil, pure, Except.pure] at h; cases h; exact RegUpd.refl _ _
  | cons i l ih =>
    intro s0 v h
    simp only [List.forIn_cons, bind, Except.bind] at h
    exact RegUpd.trans (l1 := [i]) ((regUpd_junk s0).trans (regUpd_set _ i _)) (ih _ v h)

theorem regUpd_tail (v : St β) (w : W) (fl : Flags) : RegUpd [0] v { (nextJunk (set (nextJunk v).2 0 w)).2 with fl := fl } :=
  (((regUpd_junk v).trans (regUpd_set _ 0 w)).trans (regUpd_junk _)).fl fl

/-- `b'` is reached from `b` by `n` successful byte writes -/
inductive Wrote (B : Interp.BusOps β) : Nat → β → β → Prop
  | none (b : β) : Wrote B 0 b b
  | next {n : Nat} {b b' b'' : β} {a v : Nat} : Wrote B n b b' → B.write b' a v = .ok b'' → Wrote B (n + 1) b b''

/-- the number of byte writes: none for the two reads, one for WR8, two for WR16 and PUSH16 -/
theorem helperCall_shape (B : Interp.BusOps β) (bus : β) (p addr val : Nat) (hp1 : 513 ≤ p) (hp2 : p ≤ 517) :
    match helperCall B bus (ptrVal p).toNat addr val with
    | .error e => ∃ pe, e = .bus pe
    | .ok x => Wrote B (if p = 514 then 1 else if p = 513 ∨ p = 515 then 0 else 2) bus x.2 := by
  have hp : p = 513 ∨ p = 514 ∨ p = 515 ∨ p = 516 ∨ p = 517 := by omega
  unfold helperCall
  simp only [bind, Except.bind, pure, Except.pure]
  rcases hp with rfl | rfl | rfl | rfl | rfl
  · rw [if_pos (by decide)]
    cases B.read bus addr with
    | error e => exact ⟨e, rfl⟩
    | ok v => exact .none _
  · rw [if_neg (by decide), if_pos (by decide)]
    cases h : B.write bus addr (val % 256) with
    | error e => exact ⟨e, rfl⟩
    | ok b => exact .next (.none _) h
  · rw [if_neg (by decide), if_neg (by decide), if_pos (by decide)]
    cases B.read bus addr with
    | error e => exact ⟨e, rfl⟩
    | ok lo =>
      cases B.read bus ((addr + 1) % 65536) with
      | error e => exact ⟨e, rfl⟩
      | ok hi => exact .none _
  · rw [if_neg (by decide), if_neg (by decide), if_neg (by decide), if_pos (by decide)]
    cases h : B.write bus addr (val % 256) with
    | error e => exact ⟨e, rfl⟩
    | ok b =>
      simp only []
      cases h2 : B.write b ((addr + 1) % 65536) (val / 256 % 256) with
      | error e => exact ⟨e, rfl⟩
      | ok b2 => exact .next (.next (.none _) h) h2
  · rw [if_neg (by decide), if_neg (by decide), if_neg (by decide), if_neg (by decide), if_pos (by decide)]
    cases h : B.write bus ((addr + 1) % 65536) (val / 256 % 256) with
    | error e => exact ⟨e, rfl⟩
    | ok b =>
      simp only []
      cases h2 : B.write b addr (val % 256) with
      | error e => exact ⟨e, rfl⟩
      | ok b2 => exact .next (.next (.none _) h) h2

theorem callBus_ok (B : Interp.BusOps β) {s s' : St β} (h : callBus B s = .ok s') :
    ∃ x, helperCall B s.bus (get s 0).toNat ((get s 6).toNat % 65536) (get s 2).toNat = .ok x ∧
      RegUpd (writes .callRax) { s with bus := x.2 } s' := by
  unfold callBus at h
  simp only [bind, Except.bind, pure, Except.pure] at h
  split at h
  · cases h
  · split at h
    · cases h
    · rename_i x hx
      split at h
      · cases h
      · rename_i v hv
        cases h
        refine ⟨x, hx, RegUpd.mono (by decide) ((clobber_regUpd _ _ v hv).trans (l2 := [0]) ?_)⟩
        exact regUpd_tail v _ _

theorem callBus_frame (B : Interp.BusOps β) (s s' : St β) (j : Nat) (h : callBus B s = .ok s')
    (hj : j ∉ [0, 1, 2, 6, 7, 8, 9, 10, 11]) : get s' j = get s j := by
  obtain ⟨_, _, hu⟩ := callBus_ok B h
  exact hu.frame j hj

end GbVerif.X86
