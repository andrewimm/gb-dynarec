import GbVerif.Proofs.LcdEnum
/-!
C14 lemmas that follow from `stepOf_sched` (Proofs/LcdEnum.lean): the closed form for ticks, runs and operation
lists, and which ticks / batches return the VBlank and STAT flags.
-/
namespace GbVerif.LcdProofs
open GbVerif.Lcd GbVerif.LcdSpec

theorem forMode_ne3 (e : Enables) (m : Nat) : (m != 3 && e.forMode m) = e.forMode m := by
  by_cases h : m = 3
  · subst h; rfl
  · simp [h]

theorem tick_closed (s : State) (k : Nat) (h : pos s = sched (4 * k)) :
    pos (tick4 s).1 = sched (4 * (k + 1)) := by
  rw [(tick4_eq s).1, h, (stepOf_sched k).next, Nat.mul_succ]

theorem tick_vblank (s : State) (k : Nat) (h : pos s = sched (4 * k)) :
    hasVblank (tick4 s).2 = vblankEv (4 * k) (4 * k + 4) := by
  rw [tick4_vbl, h, (stepOf_sched k).vbl_enter]; rfl

theorem tick_vblank_iff (s : State) (k : Nat) (h : pos s = sched (4 * k)) :
    hasVblank (tick4 s).2 = (k % 17556 == 17555) := by
  rw [tick4_vbl, h, (stepOf_sched k).vbl_last]

theorem vblankEv_iff (k : Nat) : vblankEv (4 * k) (4 * k + 4) = (k % 17556 == 17555) := by
  have h := stepOf_sched k
  rw [← h.vbl_last, h.vbl_enter]; rfl

theorem vblankEv_143 (k : Nat) :
    vblankEv (4 * k) (4 * k + 4) = ((sched (4 * k)).line == 143 && (sched (4 * k + 4)).line == 144) := by
  have h := stepOf_sched k
  rw [← h.vbl_143, h.vbl_enter]; rfl

theorem tick_stat (s : State) (k : Nat) (h : pos s = sched (4 * k)) :
    hasStat (tick4 s).2 = statEv (enOf s) s.lyc (4 * k) (4 * k + 4) := by
  have e := stepOf_sched k
  rw [tick4_stat, h, e.next, e.chkMode, e.chkLine]
  simp only [statEv, statEvP, modeEnteredP, lyChangedP, Bool.and_assoc, forMode_ne3]
  cases s; rfl

theorem run_closed (n : Nat) : ∀ (s : State) (k : Nat), pos s = sched (4 * k) →
    pos (run n s).1 = sched (4 * (k + n)) := by
  induction n with
  | zero => intro s k h; simpa [run_zero] using h
  | succ n ih =>
    intro s k h
    rw [run_succ]
    have := ih (tick4 s).1 (k + 1) (tick_closed s k h)
    rw [this]; congr 2; omega

/-- the one-pass scan of the spec is `anyTick` for both event kinds -/
theorem evScan_eq (e : Enables) (lyc : Nat) (n : Nat) : ∀ (k : Nat) (vb st : Bool),
    evScan e lyc (sched (4 * k)) k n vb st =
      (sched (4 * (k + n)), vb || anyTick vblankEv k n, st || anyTick (statEv e lyc) k n) := by
  induction n with
  | zero => intro k vb st; simp [evScan, anyTick]
  | succ n ih =>
    intro k vb st
    have h4 : 4 * k + 4 = 4 * (k + 1) := by omega
    simp only [evScan, anyTick]
    rw [h4, ih (k + 1)]
    simp only [vblankEv, statEv, Bool.or_assoc]
    congr 3; omega

/-! ### register writes leave the position alone -/

theorem setStat_pos (v : Nat) (s : State) : pos (setStat v s).1 = pos s := rfl
theorem setLyc_pos (v : Nat) (s : State) : pos (setLyc v s).1 = pos s := rfl

theorem exec_closed (ops : List Op) : ∀ (s : State) (k : Nat), pos s = sched (4 * k) →
    pos (exec s ops) = sched (4 * (k + ticksOf ops)) := by
  induction ops with
  | nil => intro s k h; simpa [exec, ticksOf] using h
  | cons o ops ih =>
    intro s k h
    cases o with
    | run n =>
      have := ih (run n s).1 (k + n) (run_closed n s k h)
      simp only [exec, List.foldl_cons, step, ticksOf] at this ⊢
      rw [this]; congr 2; omega
    | stat v =>
      have := ih (setStat v s).1 k (by rw [setStat_pos]; exact h)
      simpa only [exec, List.foldl_cons, step, ticksOf] using this
    | lyc v =>
      have := ih (setLyc v s).1 k (by rw [setLyc_pos]; exact h)
      simpa only [exec, List.foldl_cons, step, ticksOf] using this

theorem exec_append_run (s : State) (ops : List Op) (n : Nat) :
    exec s (ops ++ [.run n]) = (run n (exec s ops)).1 := by
  simp only [exec, List.foldl_append, List.foldl_cons, List.foldl_nil, step]

theorem pos_powerOn : pos powerOn = sched (4 * 0) := by decide

/-! ### state equality from position + registers -/

theorem mode_toNat_inj (a b : Mode) (h : a.toNat = b.toNat) : a = b := by
  cases a <;> cases b <;> first | rfl | cases h

theorem state_ext (a b : State) (hp : pos a = pos b) (hl : a.lyc = b.lyc) (he : enOf a = enOf b) : a = b := by
  obtain ⟨m, d, l, c, e1, e2, e3, e4⟩ := a
  obtain ⟨m', d', l', c', e1', e2', e3', e4'⟩ := b
  simp only [pos, Pos.mk.injEq, enOf, Enables.mk.injEq] at hp he
  simp only at hl
  obtain ⟨h1, h2, h3⟩ := hp
  obtain ⟨g1, g2, g3, g4⟩ := he
  have := mode_toNat_inj _ _ h2
  subst this h1 h3 hl g1 g2 g3 g4
  rfl

theorem run_frame_fixed (s : State) (k : Nat) (h : pos s = sched (4 * k)) : (run 17556 s).1 = s := by
  apply state_ext
  · rw [run_closed 17556 s k h, h, show 4 * (k + 17556) = 4 * k + 70224 by omega, sched_period]
  · exact (run_regs 17556 s).1
  · exact (run_regs 17556 s).2

end GbVerif.LcdProofs
