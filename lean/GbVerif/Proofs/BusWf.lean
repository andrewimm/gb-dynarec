import GbVerif.Proofs.BusBasic
/-!
The bus model from well-formed states: every access is defined (no reachable panic), the result of each
access in closed form (`getD` / `setIfInBounds`, no proofs inside terms), and preservation of well-formedness.
-/
namespace GbVerif.BusProofs
open GbVerif.Bus

theorem set_eq_sib (a : Array Nat) (i v : Nat) (h : i < a.size) : a.set i v h = a.setIfInBounds i v := by
  simp [Array.setIfInBounds, h]

theorem getD_sib (a : Array Nat) (i j v : Nat) :
    (a.setIfInBounds i v).getD j 0 = if i = j ∧ i < a.size then v else a.getD j 0 := by
  simp only [Array.getD_eq_getD_getElem?, Array.getElem?_setIfInBounds]
  by_cases hij : i = j
  · subst hij
    by_cases hi : i < a.size
    · simp [hi]
    · simp [hi]
  · simp [hij]

theorem sib_oob (a : Array Nat) (i v : Nat) (h : ¬ i < a.size) : a.setIfInBounds i v = a := by
  simp [Array.setIfInBounds, h]

theorem rd_getD {w : String} {a : Array Nat} {i : Nat} (h : i < a.size) : rd w a i = .ok (a.getD i 0) := by
  rw [rd_ok h]; simp [Array.getD, h]

theorem wr_sib {w : String} {a : Array Nat} {i : Nat} (v : Nat) (h : i < a.size) :
    wr w a i v = .ok (a.setIfInBounds i v) := by
  rw [wr_ok v h, set_eq_sib]

theorem wr_bind {w : String} {a : Array Nat} {i v : Nat} {f : Array Nat → State} {s' : State}
    (h : (wr w a i v >>= fun x => pure (f x)) = .ok s') : ∃ x, x.size = a.size ∧ s' = f x := by
  unfold wr at h
  by_cases hi : i < a.size
  · rw [dif_pos hi] at h
    refine ⟨a.set i v, by simp, ?_⟩
    injection h with h; exact h.symm
  · rw [dif_neg hi] at h; cases h

/-- the eleven regions into which the two ladders cut the address space (the two WRAM banks taken together) -/
theorem regions (a : Nat) (ha : a < 65536) :
    a < 0x4000 ∨ (0x4000 ≤ a ∧ a < 0x8000) ∨ (0x8000 ≤ a ∧ a < 0xa000) ∨ (0xa000 ≤ a ∧ a < 0xc000) ∨
    (0xc000 ≤ a ∧ a < 0xe000) ∨ (0xe000 ≤ a ∧ a < 0xfe00) ∨ (0xfe00 ≤ a ∧ a < 0xfea0) ∨
    (0xfea0 ≤ a ∧ a < 0xff00) ∨ (0xff00 ≤ a ∧ a < 0xff80) ∨ (0xff80 ≤ a ∧ a < 0xffff) ∨ a = 0xffff := by
  omega

/-- index of the cartridge-RAM byte behind bus address `a` (0xA000–0xBFFF) in the current banking state -/
abbrev _root_.GbVerif.Bus.State.cramIdx (s : State) (a : Nat) : Nat := 0x2000 * Cart.getRamBank s.cart + (a - 0xa000)

section wf
set_option linter.unusedSectionVars false
variable {s : State} (wf : WF s) {a : Nat}
include wf

theorem read_rom0_wf (h : a < 0x4000) : read s a = .ok (s.rom a) := by
  have := wf.romLen; have := wf.banks
  rw [read_rom0 s a h, if_pos (by omega)]

theorem read_romx_wf (h1 : 0x4000 ≤ a) (h2 : a < 0x8000) :
    read s a = .ok (s.rom (0x4000 * Cart.getRomBank s.cart + (a - 0x4000))) := by
  have := wf.romLen; have := getRomBank_lt s.cart wf.banks
  rw [read_romx s a h1 h2, and_3fff, show a % 0x4000 = a - 0x4000 by omega, if_pos (by omega)]

theorem read_vram_wf (h1 : 0x8000 ≤ a) (h2 : a < 0xa000) : read s a = .ok (s.vram.getD (a - 0x8000) 0) := by
  rw [read_vram s a h1 h2, and_1fff, show a % 0x2000 = a - 0x8000 by omega, rd_getD (by rw [wf.vram]; omega)]

theorem read_cram_wf (h1 : 0xa000 ≤ a) (h2 : a < 0xc000) :
    read s a = .ok (if s.cramIdx a < s.cram.size then s.cram.getD (s.cramIdx a) 0 else 0xff) := by
  rw [read_cram s a h1 h2, and_1fff, show a % 0x2000 = a - 0xa000 by omega]
  simp only [State.cramIdx]
  by_cases hz : s.cram.size = 0
  · rw [if_pos (beq_eq hz), if_neg (by omega)]
  · rw [if_neg (beq_ne hz)]
    by_cases hi : 0x2000 * Cart.getRamBank s.cart + (a - 0xa000) < s.cram.size
    · rw [if_neg (by omega), rd_getD hi, if_pos hi]
    · rw [if_pos (by omega), if_neg hi]

theorem read_wram_wf (h1 : 0xc000 ≤ a) (h2 : a < 0xe000) : read s a = .ok (s.wram.getD (a - 0xc000) 0) := by
  by_cases h : a < 0xd000
  · rw [read_wram0 s a h1 h, and_fff, show a % 0x1000 = a - 0xc000 by omega, rd_getD (by rw [wf.wram]; omega)]
  · rw [read_wramx s a (by omega) h2, and_fff, show 0x1000 + a % 0x1000 = a - 0xc000 by omega,
      rd_getD (by rw [wf.wram]; omega)]

theorem read_oam_wf (h1 : 0xfe00 ≤ a) (h2 : a < 0xfea0) : read s a = .ok (s.oam.getD (a - 0xfe00) 0) := by
  rw [read_oam s a h1 h2, and_ff, show a % 0x100 = a - 0xfe00 by omega, rd_getD (by rw [wf.oam]; omega)]

theorem read_hram_wf (h1 : 0xff80 ≤ a) (h2 : a < 0xffff) : read s a = .ok (s.hram.getD (a - 0xff80) 0) := by
  rw [read_hram s a h1 (by omega), and_7f, show a % 0x80 = a - 0xff80 by omega, rd_getD (by rw [wf.hram]; omega)]

theorem write_vram_wf (v : Nat) (h1 : 0x8000 ≤ a) (h2 : a < 0xa000) :
    write s a v = .ok { s with vram := s.vram.setIfInBounds (a - 0x8000) v } := by
  rw [write_vram s a v h1 h2, and_1fff, show a % 0x2000 = a - 0x8000 by omega, wr_sib v (by rw [wf.vram]; omega)]
  rfl

theorem write_cram_wf (v : Nat) (h1 : 0xa000 ≤ a) (h2 : a < 0xc000) :
    write s a v = .ok { s with cram := s.cram.setIfInBounds (s.cramIdx a) v } := by
  rw [write_cram s a v h1 h2, and_1fff, show a % 0x2000 = a - 0xa000 by omega]
  simp only [State.cramIdx]
  by_cases hz : s.cram.size = 0
  · rw [if_pos (beq_eq hz), sib_oob _ _ _ (by omega)]
  · rw [if_neg (beq_ne hz)]
    by_cases hi : 0x2000 * Cart.getRamBank s.cart + (a - 0xa000) < s.cram.size
    · rw [if_pos hi, wr_sib v hi]; rfl
    · rw [if_neg hi, sib_oob _ _ _ hi]

theorem write_wram_wf (v : Nat) (h1 : 0xc000 ≤ a) (h2 : a < 0xe000) :
    write s a v = .ok { s with wram := s.wram.setIfInBounds (a - 0xc000) v } := by
  by_cases h : a < 0xd000
  · rw [write_wram0 s a v h1 h, and_fff, show a % 0x1000 = a - 0xc000 by omega, wr_sib v (by rw [wf.wram]; omega)]
    rfl
  · rw [write_wramx s a v (by omega) h2, and_fff, show 0x1000 + a % 0x1000 = a - 0xc000 by omega,
      wr_sib v (by rw [wf.wram]; omega)]
    rfl

theorem write_oam_wf (v : Nat) (h1 : 0xfe00 ≤ a) (h2 : a < 0xfea0) :
    write s a v = .ok { s with oam := s.oam.setIfInBounds (a - 0xfe00) v } := by
  rw [write_oam s a v h1 h2, and_ff, show a % 0x100 = a - 0xfe00 by omega, wr_sib v (by rw [wf.oam]; omega)]
  rfl

theorem write_hram_wf (v : Nat) (h1 : 0xff80 ≤ a) (h2 : a < 0xffff) :
    write s a v = .ok { s with hram := s.hram.setIfInBounds (a - 0xff80) v } := by
  rw [write_hram s a v h1 (by omega), and_7f, show a % 0x80 = a - 0xff80 by omega, wr_sib v (by rw [wf.hram]; omega)]
  rfl

theorem read_total (ha : a < 65536) : ∃ v, read s a = .ok v := by
  rcases regions a ha with h | ⟨h1, h2⟩ | ⟨h1, h2⟩ | ⟨h1, h2⟩ | ⟨h1, h2⟩ | ⟨h1, h2⟩ | ⟨h1, h2⟩ | ⟨h1, h2⟩ | ⟨h1, h2⟩ | ⟨h1, h2⟩ | h
  · exact ⟨_, read_rom0_wf wf h⟩
  · exact ⟨_, read_romx_wf wf h1 h2⟩
  · exact ⟨_, read_vram_wf wf h1 h2⟩
  · exact ⟨_, read_cram_wf wf h1 h2⟩
  · exact ⟨_, read_wram_wf wf h1 h2⟩
  · exact ⟨_, read_echo s a h1 h2⟩
  · exact ⟨_, read_oam_wf wf h1 h2⟩
  · exact ⟨_, read_unused s a h1 h2⟩
  · rw [read_io s a h1 h2]; split <;> exact ⟨_, rfl⟩
  · exact ⟨_, read_hram_wf wf h1 h2⟩
  · exact ⟨_, read_ie s a h⟩

theorem write_total (v : Nat) (ha : a < 65536) : ∃ s', write s a v = .ok s' := by
  rcases regions a ha with h | ⟨h1, h2⟩ | ⟨h1, h2⟩ | ⟨h1, h2⟩ | ⟨h1, h2⟩ | ⟨h1, h2⟩ | ⟨h1, h2⟩ | ⟨h1, h2⟩ | ⟨h1, h2⟩ | ⟨h1, h2⟩ | h
  · exact ⟨_, write_rom s a v (by omega)⟩
  · exact ⟨_, write_rom s a v (by omega)⟩
  · exact ⟨_, write_vram_wf wf v h1 h2⟩
  · exact ⟨_, write_cram_wf wf v h1 h2⟩
  · exact ⟨_, write_wram_wf wf v h1 h2⟩
  · exact ⟨_, write_echo s a v h1 h2⟩
  · exact ⟨_, write_oam_wf wf v h1 h2⟩
  · exact ⟨_, write_unused s a v h1 h2⟩
  · rw [write_io s a v h1 h2]; split <;> exact ⟨_, rfl⟩
  · exact ⟨_, write_hram_wf wf v h1 h2⟩
  · exact ⟨_, write_ie s a v h⟩

end wf

/-- Everything a write that returns can have changed, for any address and value: the ROM image and the buffer sizes
never, the controller registers only below 0x8000, the DMA bookkeeping only at 0xFF46, the I/O block only by an IE
write or one register write. -/
structure WriteEffect (s s' : State) (a v : Nat) : Prop where
  rom : s'.rom = s.rom
  romLen : s'.romLen = s.romLen
  vram : s'.vram.size = s.vram.size
  wram : s'.wram.size = s.wram.size
  oam : s'.oam.size = s.oam.size
  hram : s'.hram.size = s.hram.size
  cart : s'.cart = if a < 0x8000 then Cart.writeRom s.cart a v else s.cart
  dma : s'.dma = if a = 0xff46 then some (v <<< 8, 0) else s.dma
  io : s'.io = s.io ∨ s'.io = { s.io with ie := v &&& 0x1f, ieUpper := v &&& 0xe0 } ∨ s'.io = s.io.setByte a v

theorem write_effect {s s' : State} {a v : Nat} (h : write s a v = .ok s') : WriteEffect s s' a v := by
  by_cases c1 : a < 0x8000
  · rw [write_rom s a v c1] at h; injection h with h; subst h
    exact ⟨rfl, rfl, rfl, rfl, rfl, rfl, (if_pos c1).symm, (if_neg (by omega)).symm, .inl rfl⟩
  have hc : s.cart = if a < 0x8000 then Cart.writeRom s.cart a v else s.cart := (if_neg c1).symm
  by_cases c9 : 0xff00 ≤ a ∧ a < 0xff80
  · rw [write_io s a v c9.1 c9.2] at h
    by_cases c46 : a = 0xff46
    · rw [if_pos (beq_eq c46)] at h; injection h with h; subst h
      exact ⟨rfl, rfl, rfl, rfl, rfl, rfl, hc, (if_pos c46).symm, .inl rfl⟩
    · rw [if_neg (beq_ne c46)] at h; injection h with h; subst h
      exact ⟨rfl, rfl, rfl, rfl, rfl, rfl, hc, (if_neg c46).symm, .inr (.inr rfl)⟩
  have hd : s.dma = if a = 0xff46 then some (v <<< 8, 0) else s.dma := (if_neg (by omega)).symm
  by_cases c2 : a < 0xa000
  · rw [write_vram s a v (by omega) c2] at h; obtain ⟨x, hx, rfl⟩ := wr_bind h
    exact ⟨rfl, rfl, hx, rfl, rfl, rfl, hc, hd, .inl rfl⟩
  by_cases c3 : a < 0xc000
  · rw [write_cram s a v (by omega) c3] at h
    split at h
    · injection h with h; subst h; exact ⟨rfl, rfl, rfl, rfl, rfl, rfl, hc, hd, .inl rfl⟩
    · split at h
      · obtain ⟨x, _, rfl⟩ := wr_bind h; exact ⟨rfl, rfl, rfl, rfl, rfl, rfl, hc, hd, .inl rfl⟩
      · injection h with h; subst h; exact ⟨rfl, rfl, rfl, rfl, rfl, rfl, hc, hd, .inl rfl⟩
  by_cases c4 : a < 0xd000
  · rw [write_wram0 s a v (by omega) c4] at h; obtain ⟨x, hx, rfl⟩ := wr_bind h
    exact ⟨rfl, rfl, rfl, hx, rfl, rfl, hc, hd, .inl rfl⟩
  by_cases c5 : a < 0xe000
  · rw [write_wramx s a v (by omega) c5] at h; obtain ⟨x, hx, rfl⟩ := wr_bind h
    exact ⟨rfl, rfl, rfl, hx, rfl, rfl, hc, hd, .inl rfl⟩
  by_cases c6 : a < 0xfe00
  · rw [write_echo s a v (by omega) c6] at h; injection h with h; subst h
    exact ⟨rfl, rfl, rfl, rfl, rfl, rfl, hc, hd, .inl rfl⟩
  by_cases c7 : a < 0xfea0
  · rw [write_oam s a v (by omega) c7] at h; obtain ⟨x, hx, rfl⟩ := wr_bind h
    exact ⟨rfl, rfl, rfl, rfl, hx, rfl, hc, hd, .inl rfl⟩
  by_cases c8 : a < 0xff00
  · rw [write_unused s a v (by omega) c8] at h; injection h with h; subst h
    exact ⟨rfl, rfl, rfl, rfl, rfl, rfl, hc, hd, .inl rfl⟩
  by_cases c10 : a = 0xffff
  · rw [write_ie s a v c10] at h; injection h with h; subst h
    exact ⟨rfl, rfl, rfl, rfl, rfl, rfl, hc, hd, .inr (.inl rfl)⟩
  · rw [write_hram s a v (by omega) c10] at h; obtain ⟨x, hx, rfl⟩ := wr_bind h
    exact ⟨rfl, rfl, rfl, rfl, rfl, hx, hc, hd, .inl rfl⟩

/-- a write at or above 0x8000 leaves the controller registers alone -/
theorem write_cart_fixed {s s' : State} {a v : Nat} (h8 : 0x8000 ≤ a) (h : write s a v = .ok s') : s'.cart = s.cart :=
  (write_effect h).cart.trans (if_neg (by omega))

/-- well-formedness looks at the buffer sizes, the ROM length and the bank count only -/
theorem WF.congr {s s' : State} (wf : WF s) (hv : s'.vram.size = s.vram.size := by rfl)
    (hw : s'.wram.size = s.wram.size := by rfl) (ho : s'.oam.size = s.oam.size := by rfl)
    (hh : s'.hram.size = s.hram.size := by rfl) (hl : s'.romLen = s.romLen := by rfl)
    (hb : s'.cart.romBanks = s.cart.romBanks := by rfl) : WF s' :=
  ⟨hv.trans wf.1, hw.trans wf.2, ho.trans wf.3, hh.trans wf.4, by rw [hl, hb]; exact wf.5, by rw [hb]; exact wf.6⟩

theorem wf_set_io {s : State} (wf : WF s) (x : Io) : WF { s with io := x } := wf.congr

/-- a write that returns keeps the state well-formed (any address, any value) -/
theorem wf_write {s s' : State} (wf : WF s) {a v : Nat} (h : write s a v = .ok s') : WF s' := by
  have e := write_effect h
  refine wf.congr e.vram e.wram e.oam e.hram e.romLen ?_
  rw [e.cart]; split
  · exact (writeRom_fixed s.cart a v).2.1
  · rfl

theorem wf_create (k : Cart.Kind) (romBanks ramBytes : Nat) (rom : Nat → Nat) (h : 2 ≤ romBanks) :
    WF (create k romBanks ramBytes rom) :=
  ⟨by simp [create], by simp [create], by simp [create], by simp [create], rfl, h⟩

theorem readWord_total {s : State} (wf : WF s) {a : Nat} (ha : a < 65536) : ∃ v, readWord s a = .ok v := by
  obtain ⟨lo, hlo⟩ := read_total wf ha
  obtain ⟨hi, hhi⟩ := read_total wf (a := (a + 1) % 65536) (Nat.mod_lt _ (by decide))
  exact ⟨(hi <<< 8) ||| lo, by unfold readWord; rw [hlo, hhi]; rfl⟩

theorem writeWord_total {s : State} (wf : WF s) {a : Nat} (v : Nat) (ha : a < 65536) :
    ∃ s', writeWord s a v = .ok s' ∧ WF s' := by
  obtain ⟨s1, h1⟩ := write_total wf (v &&& 0xff) ha
  have wf1 := wf_write wf h1
  obtain ⟨s2, h2⟩ := write_total wf1 (v >>> 8) (a := (a + 1) % 65536) (Nat.mod_lt _ (by decide))
  exact ⟨s2, by unfold writeWord; rw [h1]; exact h2, wf_write wf1 h2⟩

theorem dmaCopyByte_total {s : State} (wf : WF s) (source off : Nat) (ho : off < 0xa0) :
    ∃ s', dmaCopyByte s source off = .ok s' ∧ WF s' := by
  obtain ⟨v, hv⟩ := read_total wf (a := (source + off) % 65536) (Nat.mod_lt _ (by decide))
  obtain ⟨s', hs'⟩ := write_total wf v (a := 0xfe00 + off) (by omega)
  exact ⟨s', by unfold dmaCopyByte; rw [hv]; exact hs', wf_write wf hs'⟩

theorem dmaLoop_total (source : Nat) : ∀ (n : Nat) {s : State} (_ : WF s) (off : Nat), off + n ≤ 0xa0 →
    ∃ s', dmaLoop s source off n = .ok (s', off + n) ∧ WF s'
  | 0, s, wf, off, _ => ⟨s, rfl, wf⟩
  | n+1, s, wf, off, h => by
    obtain ⟨s1, h1, wf1⟩ := dmaCopyByte_total wf source off (by omega)
    obtain ⟨s2, h2, wf2⟩ := dmaLoop_total source n wf1 (off + 1) (by omega)
    refine ⟨s2, ?_, wf2⟩
    unfold dmaLoop; rw [h1]
    rw [show off + (n + 1) = off + 1 + n by omega]; exact h2

theorem runDma_total {s : State} (wf : WF s) (clocks : Nat) : ∃ s', runDma s clocks = .ok s' ∧ WF s' := by
  unfold runDma
  cases hd : s.dma with
  | none => exact ⟨s, rfl, wf⟩
  | some p =>
    obtain ⟨source, off⟩ := p
    by_cases ho : off ≤ 0xa0
    · obtain ⟨s1, h1, wf1⟩ := dmaLoop_total source (min (0xa0 - off) (clocks / 4)) wf off (by omega)
      simp only [h1]
      exact ⟨_, rfl, wf1.congr⟩
    · have hz : min (0xa0 - off) (clocks / 4) = 0 := by omega
      simp only [hz, dmaLoop]
      exact ⟨_, rfl, wf.congr⟩

end GbVerif.BusProofs
