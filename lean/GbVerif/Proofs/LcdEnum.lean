import GbVerif.Proofs.Lcd
/-!
C14, the position step on the schedule (`stepOf_sched`): on each four-clock tick of a frame, the position step of the
code (`stepOf`) applied to the scheduled position gives the next scheduled position, consults `check_mode_interrupt`
exactly when a mode with an enable bit is entered, consults `check_current_line` exactly when LY
changes, raises VBlank exactly when LY becomes 144, and that happens only on the last tick of the
frame.  A tick is addressed by its line `L` since power-on (LY 144 is `L = 0`) and its clock `x`
within the line.  The proof is by cases on the regions of `sched` in `L` and `x`, not by running through the 17556
ticks; `decide` settles only the two line ends `L = 9` and `L = 153`.  Lifted to all ticks by periodicity.
-/
namespace GbVerif.LcdProofs
open GbVerif.LcdSpec

theorem sched_at (L x : Nat) (hL : L < 154) (hx : x < 456) : sched (456 * L + x) =
    if L < 10 then ⟨144 + L, 1, x⟩
    else if x < 80 then ⟨L - 10, 2, x⟩ else if x < 268 then ⟨L - 10, 3, x - 80⟩ else ⟨L - 10, 0, x - 268⟩ := by
  have e : (456 * L + x) % 70224 = 456 * L + x := by omega
  simp only [sched, e]
  by_cases h : L < 10
  · rw [if_pos h, if_pos (by omega)]; congr 1 <;> omega
  · rw [if_neg h, if_neg (by omega), show (456 * L + x - 4560) % 456 = x by omega,
      show (456 * L + x - 4560) / 456 = L - 10 by omega]

/-- what a tick from scheduled position `p` to scheduled position `q` has to do; `last`: it ends the frame -/
structure TickOk (p q : Pos) (last : Bool) : Prop where
  next : (stepOf p).next = q
  chkMode : (stepOf p).chkMode = (p.mode != q.mode && q.mode != 3)
  chkLine : (stepOf p).chkLine = (p.line != q.line)
  vbl_enter : (stepOf p).vbl = (p.line != 144 && q.line == 144)
  vbl_143 : (stepOf p).vbl = (p.line == 143 && q.line == 144)
  vbl_last : (stepOf p).vbl = last

theorem tickOk_iff (p q : Pos) (last : Bool) : TickOk p q last ↔
    (stepOf p).next = q ∧ (stepOf p).chkMode = (p.mode != q.mode && q.mode != 3) ∧
    (stepOf p).chkLine = (p.line != q.line) ∧ (stepOf p).vbl = (p.line != 144 && q.line == 144) ∧
    (stepOf p).vbl = (p.line == 143 && q.line == 144) ∧ (stepOf p).vbl = last :=
  ⟨fun ⟨a, b, c, d, e, f⟩ => ⟨a, b, c, d, e, f⟩, fun ⟨a, b, c, d, e, f⟩ => ⟨a, b, c, d, e, f⟩⟩

theorem tick_in_line (L x : Nat) (hL : L < 154) (h4 : x % 4 = 0) (hx : x + 4 < 456) :
    TickOk (sched (456 * L + x)) (sched (456 * L + (x + 4))) false := by
  rw [sched_at L x hL (by omega), sched_at L (x + 4) hL hx]
  by_cases h1 : L < 10
  · have c : ¬ x + 4 ≥ 456 := by omega
    simp [tickOk_iff, stepOf, h1, c]; omega
  by_cases a1 : x + 4 < 80
  · have a0 : x < 80 := by omega
    have c : ¬ x + 4 ≥ 80 := by omega
    simp [tickOk_iff, stepOf, h1, a0, a1, c]; omega
  by_cases a0 : x < 80
  · have b1 : x + 4 < 268 := by omega
    have c : x + 4 ≥ 80 := by omega
    have e : x + 4 - 80 = 0 := by omega
    simp [tickOk_iff, stepOf, h1, a0, a1, b1, c, e]; omega
  by_cases b1 : x + 4 < 268
  · have b0 : x < 268 := by omega
    have c : ¬ x - 80 + 4 ≥ 188 := by omega
    have e : x + 4 - 80 = x - 80 + 4 := by omega
    simp [tickOk_iff, stepOf, h1, a0, a1, b0, b1, c, e]; omega
  by_cases b0 : x < 268
  · have c : x - 80 + 4 ≥ 188 := by omega
    have e : x + 4 - 268 = 0 := by omega
    simp [tickOk_iff, stepOf, h1, a0, a1, b0, b1, c, e]; omega
  · have c : ¬ x - 268 + 4 ≥ 188 := by omega
    have e : x + 4 - 268 = x - 268 + 4 := by omega
    simp [tickOk_iff, stepOf, h1, a0, a1, b0, b1, c, e]; omega

theorem tick_line_end (L : Nat) (hL : L < 154) :
    TickOk (sched (456 * L + 452)) (sched (456 * ((L + 1) % 154) + 0)) (L == 153) := by
  rw [sched_at L 452 hL (by decide), sched_at _ 0 (Nat.mod_lt _ (by decide)) (by decide)]
  by_cases h1 : L < 9
  · have : (L + 1) % 154 = L + 1 := by omega
    have : L < 10 := by omega
    have : L + 1 < 10 := by omega
    have : 144 + L < 153 := by omega
    have : ¬ L = 153 := by omega
    simp [tickOk_iff, stepOf, *]; omega
  by_cases h2 : L = 9
  · subst h2; rw [tickOk_iff]; decide
  by_cases h3 : L = 153
  · subst h3; rw [tickOk_iff]; decide
  · have : (L + 1) % 154 = L + 1 := by omega
    have : ¬ L < 10 := by omega
    have : ¬ L + 1 < 10 := by omega
    have : L - 10 < 143 := by omega
    have : L + 1 - 10 = L - 10 + 1 := by omega
    simp [tickOk_iff, stepOf, *]; omega

theorem stepOf_sched (k : Nat) : TickOk (sched (4 * k)) (sched (4 * k + 4)) (k % 17556 == 17555) := by
  rw [sched_tick_mod k, sched_tick_succ_mod k]
  have hr : k % 17556 < 17556 := Nat.mod_lt _ (by decide)
  generalize k % 17556 = r at hr ⊢
  by_cases hc : r % 114 < 113
  · have h := tick_in_line (r / 114) (4 * (r % 114)) (by omega) (by omega) (by omega)
    rw [show 456 * (r / 114) + 4 * (r % 114) = 4 * r by omega,
      show 456 * (r / 114) + (4 * (r % 114) + 4) = 4 * r + 4 by omega] at h
    rw [show (r == 17555) = false by rw [beq_eq_false_iff_ne]; omega]
    exact h
  · have h := tick_line_end (r / 114) (by omega)
    have e : sched (456 * ((r / 114 + 1) % 154) + 0) = sched (4 * r + 4) := by
      rw [sched_mod (4 * r + 4)]; congr 1; omega
    rw [show 456 * (r / 114) + 452 = 4 * r by omega, e,
      show (r / 114 == 153) = (r == 17555) by rw [Bool.eq_iff_iff, beq_iff_eq, beq_iff_eq]; omega] at h
    exact h

end GbVerif.LcdProofs
