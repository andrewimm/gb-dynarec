import GbVerif.Model.JitHost
import GbVerif.Proofs.X86Paths
import GbVerif.Proofs.X86Stack
/-!
Soundness of the host-discipline walk for executions of the x86 model: the host stack below the template's own pushes
is never touched, rbp is never written, and at a `call rax` rax holds one of the five helper pointers and rdi the memory
base (`HostRel`).  `absStep_ok` says what `X86Wf.absStep` has checked when it accepts an instruction, `host_carries` that
this carries `HostRel` across the step.  The walk that `JitHost.hostOk` runs uses `JitHost.trHost`, which accepts less
than `absStep` (`trHost_ok`); `host_carries'` and `hostOk_sound` are stated for it.
-/
namespace GbVerif.X86
open GbVerif.JitCycles GbVerif.JitPaths GbVerif.X86Wf
variable {β : Type}

/-- the relation carried along a run; `stack0`, `rbp0` = the host stack and rbp at the start of the template -/
def HostRel (stack0 : List W) (rbp0 : W) (a : Abs) (s : St β) : Prop :=
  s.stack.length = stack0.length + a.depth ∧ s.stack.drop a.depth = stack0 ∧ get s 5 = rbp0 ∧
  (a.raxPtr = true → ∃ p, 513 ≤ p ∧ p ≤ 517 ∧ get s 0 = ptrVal p) ∧ (a.rdiMem = true → get s 7 = ptrVal 512)

/-- what `absStep` checks before it accepts an instruction whose step could fault, and the depth `d'` it records -/
def absChecks (a : Abs) (d' : Nat) : Instr → Prop
  | .push _ | .pushf => d' = a.depth + 1
  | .pop _ | .popf => a.depth ≠ 0 ∧ d' = a.depth - 1
  | .load _ _ b d | .store _ b d _ | .store8 b d _ => (b = 4 ∧ d / 8 < a.depth) ∧ d' = a.depth
  | .callRax => (a.raxPtr = true ∧ a.rdiMem = true) ∧ d' = a.depth
  | .ret | .jmpReg _ => False
  | _ => d' = a.depth

/-- what `absStep` has established when it accepts an instruction: rbp is not written; a pointer flag that is set
afterwards was set before and its register is not written, or the instruction is the `movabs` that loads the pointer -/
structure AbsOk (ins : Instr) (a a' : Abs) : Prop where
  checks : absChecks a a'.depth ins
  rbp : 5 ∉ writes ins
  rax : a'.raxPtr = true → (a.raxPtr = true ∧ 0 ∉ writes ins) ∨ ∃ p, 513 ≤ p ∧ p ≤ 517 ∧ ins = .movabs 0 p
  rdi : a'.rdiMem = true → (a.rdiMem = true ∧ 7 ∉ writes ins) ∨ ins = .movabs 7 512

theorem keeps_flag {l : List Nat} {r : Nat} {b : Bool} (h : (if l.contains r then false else b) = true) :
    b = true ∧ r ∉ l := by
  by_cases hw : l.contains r = true
  · rw [if_pos hw] at h; cases h
  · rw [if_neg hw] at h; exact ⟨h, fun hm => hw (List.contains_iff_mem.mpr hm)⟩

theorem absStep_ok {ins : Instr} {a a' : Abs} (h : absStep ins a = some a') : AbsOk ins a a' := by
  unfold absStep at h
  simp only [] at h
  -- the two guards, by hand: `split` would go through the whole match below them
  by_cases hg1 : (ins != .callRax && (writes ins).any (fun r => r == 4 || r == 5 || (8 ≤ r && r ≤ 11))) = true
  · rw [if_pos hg1] at h; cases h
  rw [if_neg hg1] at h
  by_cases hg2 : ((writes ins).contains 14 && !r14WriteOk ins) = true
  · rw [if_pos hg2] at h; cases h
  rw [if_neg hg2] at h
  have h5 : 5 ∉ writes ins := by
    intro hm
    by_cases hc : ins = .callRax
    · subst hc; revert hm; decide
    · apply hg1
      rw [Bool.and_eq_true, List.any_eq_true]
      exact ⟨by simpa using hc, 5, hm, by decide⟩
  -- the common case: the pointer flags survive unless their register is written
  have ok : ∀ d', absChecks a d' ins → AbsOk ins a
      ⟨d', if (writes ins).contains 0 then false else a.raxPtr, if (writes ins).contains 7 then false else a.rdiMem⟩ :=
    fun d' hc => ⟨hc, h5, fun h => .inl (keeps_flag h), fun h => .inl (keeps_flag h)⟩
  split at h
  · cases h; exact ok _ rfl
  · cases h; exact ok _ rfl
  · split at h
    · cases h
    · rename_i hd; cases h; exact ok _ ⟨by simpa using hd, rfl⟩
  · split at h
    · cases h
    · rename_i hd; cases h; exact ok _ ⟨by simpa using hd, rfl⟩
  · split at h
    · rename_i hb; cases h; exact ok _ ⟨by simpa using hb, rfl⟩
    · cases h
  · split at h
    · rename_i hb; cases h; exact ok _ ⟨by simpa using hb, rfl⟩
    · cases h
  · split at h
    · rename_i hb; cases h; exact ok _ ⟨by simpa using hb, rfl⟩
    · cases h
  · rename_i p
    split at h
    · rename_i hp
      simp only [Bool.and_eq_true, decide_eq_true_eq] at hp
      cases h
      exact ⟨rfl, h5, fun _ => .inr ⟨p, hp.1, hp.2, rfl⟩, fun h => .inl (keeps_flag h)⟩
    · cases h
  · cases h
    exact ⟨rfl, h5, fun h => .inl (keeps_flag h), fun _ => .inr rfl⟩
  · cases h
  · split at h
    · rename_i hc; cases h
      exact ⟨⟨by simpa using hc, rfl⟩, h5, fun h => Bool.noConfusion h, fun h => Bool.noConfusion h⟩
    · cases h
  · cases h
  · cases h
  · rename_i h1 h2 h3 h4 h5' h6 h7 h8 h9 h10 h11 h12 h13
    cases h
    refine ok _ ?_
    unfold absChecks
    split
    · exact absurd rfl (h1 _)
    · exact absurd rfl h2
    · exact absurd rfl (h3 _)
    · exact absurd rfl h4
    · exact absurd rfl (h5' _ _ _ _)
    · exact absurd rfl (h6 _ _ _ _)
    · exact absurd rfl (h7 _ _ _)
    · exact absurd rfl h11
    · exact absurd rfl h12
    · exact absurd rfl (h13 _)
    · rfl

theorem host_stack (B : Interp.BusOps β) {ins : Instr} {a : Abs} {d' len : Nat} {s s1 : St β} {stack0 : List W}
    (hstep : step B s ins len = .ok s1) (hc : absChecks a d' ins)
    (hlen : s.stack.length = stack0.length + a.depth) (hdrop : s.stack.drop a.depth = stack0) :
    s1.stack.length = stack0.length + d' ∧ s1.stack.drop d' = stack0 := by
  have keep : touchesStack ins = false → d' = a.depth → s1.stack.length = stack0.length + d' ∧ s1.stack.drop d' = stack0 :=
    fun ht hd => by rw [(step_effect B hstep).stack ht, hd]; exact ⟨hlen, hdrop⟩
  have push : ∀ w, s1.stack = w :: s.stack → d' = a.depth + 1 → s1.stack.length = stack0.length + d' ∧ s1.stack.drop d' = stack0 :=
    fun w hs hd => by rw [hs, hd]; exact ⟨by rw [List.length_cons, hlen]; rfl, hdrop⟩
  have pop : (∃ w, s.stack = w :: s1.stack) → a.depth ≠ 0 ∧ d' = a.depth - 1 →
      s1.stack.length = stack0.length + d' ∧ s1.stack.drop d' = stack0 := by
    rintro ⟨w, hs⟩ ⟨h0, hd⟩
    obtain ⟨d, hd1⟩ : ∃ d, a.depth = d + 1 := ⟨a.depth - 1, by omega⟩
    rw [hs, hd1] at hlen hdrop
    rw [hd, hd1, Nat.add_sub_cancel]
    exact ⟨by rw [List.length_cons] at hlen; omega, hdrop⟩
  have store : ∀ k, (∃ w, k < s.stack.length ∧ s1.stack = s.stack.set k w) → k < a.depth → d' = a.depth →
      s1.stack.length = stack0.length + d' ∧ s1.stack.drop d' = stack0 := by
    rintro k ⟨w, _, hs⟩ hk hd
    rw [hs, hd, List.length_set, List.drop_set_of_lt hk]
    exact ⟨hlen, hdrop⟩
  cases ins
  case push r => exact push _ (push_stack B hstep) hc
  case pushf => exact push _ (pushf_stack B hstep) hc
  case pop r => obtain ⟨w, hs, _⟩ := pop_stack B hstep; exact pop ⟨w, hs⟩ hc
  case popf => exact pop (popf_stack B hstep) hc
  case store sz b d src => obtain ⟨⟨rfl, hb⟩, hd⟩ := hc; exact store _ (store_stack B hstep) hb hd
  case store8 b d src => obtain ⟨⟨rfl, hb⟩, hd⟩ := hc; exact store _ (store8_stack B hstep) hb hd
  case load sz r b d => exact keep rfl hc.2
  case callRax => exact keep rfl hc.2
  case ret => exact hc.elim
  case jmpReg r => exact hc.elim
  all_goals exact keep rfl hc

theorem host_carries (B : Interp.BusOps β) (stack0 : List W) (rbp0 : W) :
    Carries B absStep (HostRel (β := β) stack0 rbp0) where
  pc := fun _ _ _ h => h
  step := by
    intro ins a a' s s1 len _ _ htr hR hsz hstep
    obtain ⟨hlen, hdrop, hrbp, hrax, hrdi⟩ := hR
    have ok := absStep_ok htr
    have eff := step_effect B hstep
    obtain ⟨hlen1, hdrop1⟩ := host_stack B hstep ok.checks hlen hdrop
    refine ⟨hlen1, hdrop1, (eff.frame 5 ok.rbp).trans hrbp, fun h => ?_, fun h => ?_⟩
    · rcases ok.rax h with ⟨ha, hw⟩ | ⟨p, h1, h2, rfl⟩
      · obtain ⟨p, h1, h2, h3⟩ := hrax ha
        exact ⟨p, h1, h2, (eff.frame 0 hw).trans h3⟩
      · exact ⟨p, h1, h2, movabs_get B hstep (by omega)⟩
    · rcases ok.rdi h with ⟨ha, hw⟩ | rfl
      · exact (eff.frame 7 hw).trans (hrdi ha)
      · exact movabs_get B hstep (by omega)

theorem trHost_ok {ins : Instr} {a a' : Abs} (h : JitHost.trHost ins a = some a') :
    absStep ins a = some a' ∧
    ∀ sz r b d, ins = .load sz r b d ∨ ins = .store sz b d r → d % 8 + bitsOf sz / 8 ≤ 8 := by
  unfold JitHost.trHost at h
  split at h
  · split at h
    · cases h
    · rename_i hal
      exact ⟨h, fun _ _ _ _ e => by rcases e with e | e <;> cases e; exact Nat.not_lt.mp hal⟩
  · split at h
    · cases h
    · rename_i hal
      exact ⟨h, fun _ _ _ _ e => by rcases e with e | e <;> cases e; exact Nat.not_lt.mp hal⟩
  · rename_i h1 h2
    exact ⟨h, fun _ _ _ _ e => by rcases e with e | e; exact absurd e (h1 _ _ _ _); exact absurd e (h2 _ _ _ _)⟩

theorem host_carries' (B : Interp.BusOps β) (stack0 : List W) (rbp0 : W) :
    Carries B JitHost.trHost (HostRel (β := β) stack0 rbp0) where
  pc := (host_carries B stack0 rbp0).pc
  step := fun ins a a' s s1 len hj1 hj2 htr hR hsz hstep =>
    (host_carries B stack0 rbp0).step ins a a' s s1 len hj1 hj2 (trHost_ok htr).1 hR hsz hstep

theorem hostRel_init (s : St β) : HostRel s.stack (get s 5) {} s :=
  ⟨rfl, rfl, rfl, fun h => Bool.noConfusion h, fun h => Bool.noConfusion h⟩

/-- **what `hostOk` means**: every complete run of the template leaves the host stack exactly as it found it — same
slots, same contents — and rbp untouched -/
theorem hostOk_sound (B : Interp.BusOps β) (tokens : List Nat) (code : List (Nat × Instr)) (C : List Nat)
    (hdec : decodeCode tokens = some code) (hok : codeOk code (bytesOf tokens) = true) (hC : JitHost.hostOk tokens = some C)
    (fr : Nat) (s s' : St β) (hsz : s.r.size = 16) (hpc : s.pc = offAt code (bytesOf tokens) 0)
    (hrun : run B code (bytesOf tokens) fr s = .ok s') :
    s'.stack = s.stack ∧ get s' 5 = get s 5 := by
  obtain ⟨a', n, hR', hf, _⟩ := analyse_sound B JitHost.trHost {} (fun a => if a.depth == 0 then some 0 else none) _
    (host_carries' B s.stack (get s 5)) tokens code C hdec hok hC fr s s' hsz hpc (hostRel_init s) hrun
  split at hf
  · rename_i hz
    have hz' : a'.depth = 0 := by simpa using hz
    obtain ⟨_, h2, h3, _, _⟩ := hR'
    rw [hz'] at h2
    exact ⟨h2, h3⟩
  · cases hf

end GbVerif.X86
