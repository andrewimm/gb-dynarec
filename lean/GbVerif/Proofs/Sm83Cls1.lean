import GbVerif.Proofs.Sm83Rel
import GbVerif.Proofs.Sm83Alu
import GbVerif.Proofs.Sm83Rot
import GbVerif.Proofs.Sm83Misc
/-!
Opcode classes, part 1 (data instructions): each lemma says what SM83 behaviour `run_op` on one `Op` constructor
refines (`OpRel`).  The `run_op` arm is read off by `rfl`; `Sm83Main*` compares the behaviour with `SM83.step` on each
literal opcode.
-/
namespace GbVerif.C05
open GbVerif.Interp GbVerif.Sm83Bits
open GbVerif.SM83 (Cpu mkF flagZ flagN flagH flagC Outcome)

variable {β : Type} {B : BusOps β} {op : Op} {len clk : Nat}

/-- NOP, STOP, HALT, DI, EI: registers unchanged, PC advanced, status reported -/
theorem op_id {out : Outcome} (hrun : ∀ r m, runOp B op r m len = .ok (advance r len, m, statusOf out)) :
    OpRel B op len clk fun c m => .ok (SM83.next c len, m, clk / 4, out) := by
  refine ⟨fun c k m hc => ?_⟩
  rw [hrun]
  exact rel_advance hc k len clk m out

theorem op_ld_rr (d s : Reg8) :
    OpRel B (Op.Load8 d s) len clk fun c m =>
      .ok (SM83.next (SM83.setR c (idx d) (SM83.getR c (idx s))) len, m, clk / 4, .normal) :=
  op_pure (fun _ _ => rfl) fun c k hc => by
    rw [getReg_conc hc]; exact ⟨setReg_conc hc k d _ (getR_lt hc _), cwf_setR hc _ _ (getR_lt hc _)⟩

theorem op_ld_rn (d : Reg8) {n : Nat} (hn : n < 256) :
    OpRel B (Op.Load8Immediate d n) len clk fun c m => .ok (SM83.next (SM83.setR c (idx d) n) len, m, clk / 4, .normal) :=
  op_pure (fun _ _ => rfl) fun _ k hc => ⟨setReg_conc hc k d _ hn, cwf_setR hc _ _ hn⟩

/-- ALU A,r and ALU A,n -/
theorem op_alu {y : Nat} {vm : Regs → Nat} {vs : Cpu → Nat}
    (hrun : ∀ r m, runOp B op r m len = .ok (advance (aluModel y r (vm r)) len, m, STATUS_NORMAL))
    (hv : ∀ c k, CWF c → vm (conc c k) = vs c ∧ vs c < 256) :
    OpRel B op len clk fun c m => .ok (SM83.next (SM83.alu c y (vs c)) len, m, clk / 4, .normal) :=
  op_pure hrun fun c k hc => by
    obtain ⟨e, w⟩ := hv c k hc
    rw [e]; exact ⟨aluModel_conc hc k y _ w, cwf_alu hc y _ w⟩

/-- ALU A,(HL) -/
theorem op_alu_hl (hB : ByteBus B) {y : Nat}
    (hrun : ∀ r m, runOp B op r m len =
      (B.read m (getReg16 r .HL)).bind fun v => .ok (advance (aluModel y r v) len, m, STATUS_NORMAL)) :
    OpRel B op len clk fun c m =>
      (B.read m (SM83.hl c)).bind fun v => .ok (SM83.next (SM83.alu c y v) len, m, clk / 4, .normal) :=
  op_read hB hrun (fun _ k hc => getHL_conc hc k) fun v _ k hv hc => ⟨aluModel_conc hc k y v hv, cwf_alu hc y v hv⟩

theorem op_inc8 (reg : Reg8) :
    OpRel B (Op.Increment8 reg) len clk fun c m =>
      let v := SM83.getR c (idx reg)
      let s := SM83.setR c (idx reg) ((v + 1) % 256)
      .ok (SM83.next { s with f := mkF (decide ((v + 1) % 256 = 0)) false (decide (v % 16 = 15)) (flagC s.f) } len,
        m, clk / 4, .normal) :=
  op_pure (fun _ _ => rfl) fun c k hc => by
    have hc2 := cwf_setR hc (idx reg) _ (mod256_lt (SM83.getR c (idx reg) + 1))
    rw [getReg_conc hc, carryAdd1, setReg_conc hc k reg _ (mod256_lt _), incFlags_conc hc2]
    exact ⟨rfl, cwf_mkF hc2 ..⟩

theorem op_dec8 (reg : Reg8) :
    OpRel B (Op.Decrement8 reg) len clk fun c m =>
      let v := SM83.getR c (idx reg)
      let s := SM83.setR c (idx reg) ((v + 255) % 256)
      .ok (SM83.next { s with f := mkF (decide ((v + 255) % 256 = 0)) true (decide (v % 16 = 0)) (flagC s.f) } len,
        m, clk / 4, .normal) :=
  op_pure (fun _ _ => rfl) fun c k hc => by
    have hc2 := cwf_setR hc (idx reg) _ (mod256_lt (SM83.getR c (idx reg) + 255))
    rw [getReg_conc hc, carrySub1 _ (getR_lt hc _), setReg_conc hc k reg _ (mod256_lt _), decFlags_conc hc2]
    exact ⟨rfl, cwf_mkF hc2 ..⟩

/-- RLCA / RRCA / RLA / RRA are `rot[y]` on A with Z cleared -/
theorem op_rotA (y : Nat) (hy : y < 8)
    (hrun : ∀ r m, runOp B op r m len = .ok (advance
      (flagsRot (setReg r .A (rotModel y (getReg r .A) r.af).1) (rotModel y (getReg r .A) r.af) false) len, m, STATUS_NORMAL)) :
    OpRel B op len clk fun c m =>
      .ok (SM83.next { c with a := (rotRes (if flagC c.f then 1 else 0) y c.a).1,
                              f := mkF false false false (rotRes (if flagC c.f then 1 else 0) y c.a).2 } len, m, clk / 4, .normal) :=
  op_pure hrun fun c k hc => by
    have hl := rotRes_lt (if flagC c.f then 1 else 0) y c.a (by split <;> omega) hc.ha
    rw [getA_conc hc, rotModel_conc hc k y _ hy hc.ha, setA_conc hc k _ hl, flagsRot_conc (cwf_setA hc _ hl)]
    exact ⟨rfl, cwf_mkF (cwf_setA hc _ hl) ..⟩

/-- RRA as `SM83.step` writes it (carry-in `if C then 128 else 0`) against the `rot[3]` entry (`cy * 128`) -/
theorem rra_val (c : Cpu) : c.a / 2 + (if flagC c.f = true then 128 else 0) = (rotRes (if flagC c.f then 1 else 0) 3 c.a).1 := by
  simp only [rotRes]; split <;> rfl

theorem op_daa :
    OpRel B Op.DAA len clk fun c m =>
      .ok (SM83.next { c with a := (SM83.daa c.a c.f).1, f := (SM83.daa c.a c.f).2 } len, m, clk / 4, .normal) :=
  op_pure (fun _ _ => rfl) fun _ k hc => daa_conc hc k

theorem op_cpl :
    OpRel B Op.ComplementA len clk fun c m =>
      .ok (SM83.next { c with a := 255 - c.a, f := mkF (flagZ c.f) true true (flagC c.f) } len, m, clk / 4, .normal) :=
  op_pure (fun _ _ => rfl) fun c k hc => by
    have hl : 255 - c.a < 256 := by omega
    have hc2 := cwf_setA hc _ hl
    have hx : u8 (c.a ^^^ 0xff) = 255 - c.a := by rw [xor_ff _ hc.ha]; exact Nat.mod_eq_of_lt hl
    rw [getA_conc hc, hx, setA_conc hc k _ hl, cpu_f_eq hc2, orF40_mkF hc2, orF20_mkF hc2]
    exact ⟨rfl, cwf_mkF hc2 ..⟩

theorem op_scf :
    OpRel B Op.SetCarryFlag len clk fun c m =>
      .ok (SM83.next { c with f := mkF (flagZ c.f) false false true } len, m, clk / 4, .normal) :=
  op_pure (fun _ _ => rfl) fun _ k hc => by
    rw [mask_70 hc, orF10_mkF hc]; exact ⟨rfl, cwf_mkF hc ..⟩

theorem op_ccf :
    OpRel B Op.ComplementCarryFlag len clk fun c m =>
      .ok (SM83.next { c with f := mkF (flagZ c.f) false false (!flagC c.f) } len, m, clk / 4, .normal) :=
  op_pure (fun _ _ => rfl) fun c k hc => by
    have ha := hc.ha
    have hm := mkF_lt (flagZ c.f) false false (flagC c.f)
    rw [mask_60 hc]
    refine ⟨?_, cwf_mkF hc ..⟩
    simp only [conc, Regs.mk.injEq, and_true]
    rw [xor_low _ _ (by decide)]
    have e1 : (c.a * 256 + mkF (flagZ c.f) false false (flagC c.f)) / 256 = c.a := by omega
    have e2 : (c.a * 256 + mkF (flagZ c.f) false false (flagC c.f)) % 256 = mkF (flagZ c.f) false false (flagC c.f) := by omega
    rw [e1, e2, mkF_xor_10]

theorem op_ld16 (d : Reg16) (hd : d ≠ .AF) {lo hi : Nat} (hlo : lo < 256) (hhi : hi < 256) :
    OpRel B (Op.Load16 d (lo + 256 * hi)) len clk fun c m =>
      .ok (SM83.next (SM83.setRP c (idx16 d) (hi * 256 + lo)) len, m, clk / 4, .normal) :=
  op_pure (fun _ _ => rfl) fun c k hc => by
    have e : lo + 256 * hi = hi * 256 + lo := by omega
    rw [e]; exact ⟨setReg16_conc k d hd _ (by omega), cwf_setRP hc _ _⟩

theorem op_inc16 (reg : Reg16) (hr : reg ≠ .AF) :
    OpRel B (Op.Increment16 reg) len clk fun c m =>
      .ok (SM83.next (SM83.setRP c (idx16 reg) ((SM83.getRP c (idx16 reg) + 1) % 65536)) len, m, clk / 4, .normal) :=
  op_pure (fun _ _ => rfl) fun _ k hc => ⟨incdec16_conc hc k 1 reg hr, cwf_setRP hc _ _⟩

theorem op_dec16 (reg : Reg16) (hr : reg ≠ .AF) :
    OpRel B (Op.Decrement16 reg) len clk fun c m =>
      .ok (SM83.next (SM83.setRP c (idx16 reg) ((SM83.getRP c (idx16 reg) + 65535) % 65536)) len, m, clk / 4, .normal) :=
  op_pure (fun _ _ => rfl) fun _ k hc => ⟨incdec16_conc hc k 65535 reg hr, cwf_setRP hc _ _⟩

theorem op_addhl (src : Reg16) (hsrc : src ≠ .AF) :
    OpRel B (Op.AddHL src) len clk fun c m =>
      .ok (SM83.next { SM83.setHL c ((SM83.hl c + SM83.getRP c (idx16 src)) % 65536) with
        f := mkF (flagZ c.f) false (decide (SM83.hl c % 4096 + SM83.getRP c (idx16 src) % 4096 ≥ 4096))
          (decide (SM83.hl c + SM83.getRP c (idx16 src) ≥ 65536)) } len, m, clk / 4, .normal) :=
  op_pure (fun _ _ => rfl) fun c k hc => by
    have hc2 := cwf_setHL hc ((SM83.hl c + SM83.getRP c (idx16 src)) % 65536)
    rw [getHL_conc hc, getReg16_conc hc k src hsrc, carryAdd16_eq, setHL_conc k _ (Nat.mod_lt _ (by decide)), mask_70 hc2,
      testCarry_mkF hc2, testHalf_mkF hc2]
    simp only [Bool.false_or]
    exact ⟨rfl, cwf_mkF hc2 ..⟩

theorem op_addsp {e : Nat} (he : e < 256) :
    OpRel B (Op.AddSP e) len clk fun c m =>
      .ok (SM83.next { c with sp := (SM83.spPlus c.sp e).1, f := (SM83.spPlus c.sp e).2 } len, m, clk / 4, .normal) :=
  op_pure (fun _ _ => rfl) fun c k hc => by
    have hc2 := cwf_setSP hc _ (spPlus_lt c.sp e)
    rw [getSP_conc hc, addSigned_eq _ _ he, setSP_conc, mask_f0 hc2, testCarry_mkF hc2, testHalf_mkF hc2, spPlus_flags]
    simp only [Bool.false_or]
    exact ⟨trivial, cwf_mkF hc2 ..⟩

theorem op_ldhlsp {e : Nat} (he : e < 256) :
    OpRel B (Op.LoadStackOffset e) len clk fun c m =>
      .ok (SM83.next { SM83.setHL c (SM83.spPlus c.sp e).1 with f := (SM83.spPlus c.sp e).2 } len, m, clk / 4, .normal) :=
  op_pure (fun _ _ => rfl) fun c k hc => by
    have hc2 := cwf_setHL hc (SM83.spPlus c.sp e).1
    rw [getSP_conc hc, addSigned_eq _ _ he, setHL_conc k _ (spPlus_lt c.sp e), mask_f0 hc2, testCarry_mkF hc2,
      testHalf_mkF hc2, spPlus_flags]
    simp only [Bool.false_or]
    exact ⟨trivial, cwf_mkF hc2 ..⟩

theorem op_ldsphl :
    OpRel B Op.LoadToStackPointer len clk fun c m => .ok (SM83.next { c with sp := SM83.hl c } len, m, clk / 4, .normal) :=
  op_pure (fun _ _ => rfl) fun c k hc => by
    rw [getHL_conc hc, setSP_conc]; exact ⟨rfl, cwf_setSP hc _ (hl_lt hc)⟩

end GbVerif.C05
