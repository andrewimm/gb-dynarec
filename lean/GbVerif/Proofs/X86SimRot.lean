import GbVerif.Proofs.X86SimSwap
/-
C01, the data side: the circular rotates.  RLCA / RRCA (`rol|ror ah, 1 ; <flag conversion keeping 0xef of F, taking C> ;
and al, 0x1f`) and, on the CB page, RLC r / RRC r for the seven registers: the same, then `or r8, r8 ; sete r14b ;
ror r14b, 1 ; or al, r14b` for the Z flag.  The CB forms use r14b (the block-status byte) as scratch and leave 0 or 0x80 there:
`SimulatesCbS` is `SimulatesCb` with that in place of an untouched status.
-/
namespace GbVerif.X86
open GbVerif.JitCycles GbVerif.Interp
variable {β : Type}

/-- the Z tail of the CB rotates: `or r8, r8 ; sete r14b ; ror r14b, 1 ; or al, r14b` -/
def zTail (r : Reg8) (o0 o1 o2 o3 : Nat) : List (Nat × Instr) :=
  [(o0, Instr.alu8 AluOp.or (hostR8 r) (hostR8 r)), (o1, Instr.sete (R8.lo 14)), (o2, Instr.sh8 ShOp.ror (R8.lo 14) 1),
   (o3, Instr.alu8 AluOp.or (R8.lo 0) (R8.lo 14))]

theorem ztail_body (B : BusOps β) (r : Reg8) (o0 o1 o2 o3 e : Nat) (g1 : Regs) (a f : Nat) (ha : a < 256) (hf : f < 256)
    (hpk : g1.af = a * 256 + f) (st s' : St β) (hs : Sim g1 st) (hex : execList B e (zTail r o0 o1 o2 o3) st = .ok s') :
    Sim (testZero g1 (getReg g1 r)) s' ∧ s'.bus = st.bus ∧ s'.stack = st.stack ∧ (get8 s' (.lo 14) = 0 ∨ get8 s' (.lo 14) = 0x80) := by
  obtain ⟨sa, h1, hex⟩ := execList_cons B _ _ _ _ _ _ hex
  obtain ⟨sb, h2, hex⟩ := execList_cons B _ _ _ _ _ _ hex
  obtain ⟨sc, h3, hex⟩ := execList_cons B _ _ _ _ _ _ hex
  obtain ⟨hsa, hua, hz⟩ := step_orself_sim B r hs h1
  obtain ⟨v3, r3, b3, k3, sz3⟩ := step_sete_ror B sa sb sc _ _ hsa.size h2 h3
  obtain ⟨q, qb, qk, q14⟩ := or_r14_sim B (getReg g1 r) hf hpk (sim_scratch hsa r3 sz3) (by rw [v3, hz]) (execList_one B hex)
  exact ⟨q, by rw [qb, b3, hua.bus], by rw [qk, k3, hua.stack], q14⟩

/-- the two circular rotates -/
inductive Rc2 where | rlc | rrc
deriving DecidableEq, Repr

def Rc2.host : Rc2 → ShOp
  | .rlc => .rol | .rrc => .ror
def Rc2.res : Rc2 → Nat → Nat × Bool
  | .rlc, v => rlCircular v | .rrc, v => rrCircular v

theorem rot1_res (k : Rc2) (v : Nat) (hv : v < 256) (fl : Flags) :
    (shOp k.host 8 v 1 fl).1 = (k.res v).1 ∧ (shOp k.host 8 v 1 fl).2.cf = (k.res v).2 ∧ (k.res v).1 < 256 := by
  have e : (shOp k.host 8 v 1 fl).1 = (shOp k.host 8 v 1 (mkFl false)).1 ∧ (shOp k.host 8 v 1 fl).2.cf = (shOp k.host 8 v 1 (mkFl false)).2.cf := by
    cases k <;> exact ⟨rfl, rfl⟩
  have := Enum.forall_lt_of_allRange (fun v => (shOp k.host 8 v 1 (mkFl false)).1 == (k.res v).1 &&
    ((shOp k.host 8 v 1 (mkFl false)).2.cf == (k.res v).2) && decide ((k.res v).1 < 256)) 8 (by cases k <;> decide +kernel) v hv
  simp only [Bool.and_eq_true, beq_iff_eq, decide_eq_true_eq] at this
  rw [e.1, e.2]
  exact ⟨this.1.1, this.1.2, this.2⟩

theorem fRotC_eq (f : Nat) (c : Bool) :
    bitop .and ((f &&& 0xef) ||| (if c then 0x10 else 0)) 0x1f = ((f &&& 0x0f) ||| (if c then 0x10 else 0)) := by
  show (_ ||| _) &&& 0x1f = _
  rw [and_or_mask]; cases c <;> rfl

/-- `rol|ror r8, 1 ; <flag conversion keeping 0xef of F, taking C> ; and al, 0x1f` -/
def rotcBody (k : Rc2) (r : Reg8) (o : Nat → Nat) : List (Nat × Instr) :=
  ((o 0, Instr.sh8 k.host (hostR8 r) 1) :: pipeAt o 0xef 0x10) ++ [(o 10, Instr.alu8i AluOp.and (R8.lo 0) 0x1f)]

/-- the flag conversion of the rotates from a state related to `g1` whose host carry is that of `res` -/
theorem rot_tail (B : BusOps β) (o : Nat → Nat) (e : Nat) {g1 : Regs} (res : Nat × Bool) {s1 s3 : St β} (hs1 : Sim g1 s1)
    (hc : s1.fl.cf = res.2) (hex : execList B e (pipeAt o 0xef 0x10 ++ [(o 10, Instr.alu8i AluOp.and (R8.lo 0) 0x1f)]) s1 = .ok s3) :
    Sim (flagsRot g1 res false) s3 ∧ Untouched s1 s3 :=
  pipe_al_sim B .and (Or.inl rfl) 0xef 0x10 0x1f (by decide) (by decide) (by decide) o e hs1 (sameButAf_flagsRotC _ _)
    (rotFlagsC_pack _ _) (by rw [(conv_take _).2.2.2, hc]; exact fRotC_eq _ _) hex

/-- rotate and carry: the common part of RLCA / RRCA / RLC r / RRC r -/
theorem rotc_body (B : BusOps β) (k : Rc2) (r : Reg8) (o : Nat → Nat) (e : Nat) (g : Regs) (st s3 : St β) (hs : Sim g st)
    (hex : execList B e (rotcBody k r o) st = .ok s3) :
    Sim (flagsRot (setReg g r (k.res (getReg g r)).1) (k.res (getReg g r)) false) s3 ∧ Untouched st s3 := by
  obtain ⟨s1, h1, hex2⟩ := execList_cons B _ _ _ (pipeAt o 0xef 0x10 ++ [(o 10, Instr.alu8i AluOp.and (R8.lo 0) 0x1f)]) _ _ hex
  obtain ⟨hv, hc, hlt⟩ := rot1_res k (getReg g r) (getReg_lt g r) st.fl
  obtain ⟨hs1, hu1, hfl⟩ := step_sh8_sim B k.host 1 (by decide) r hs hv hlt h1
  obtain ⟨q1, q2⟩ := rot_tail B o e (k.res (getReg g r)) hs1 (hfl ▸ hc) hex2
  exact ⟨q1, hu1.trans q2⟩

def Rc2.opA : Rc2 → Op
  | .rlc => .RotateLeftCarryA | .rrc => .RotateRightCarryA
def opcodeRcA : Rc2 → Nat
  | .rlc => 0x07 | .rrc => 0x0f

theorem table_rca (k : Rc2) (b1 b2 : Nat) :
    decodeCode (Gen.emitOp (opcodeRcA k)) = some (rotcBody k .A (aluOff' 2) ++ [(33, addIp 1), (37, addCy 1)]) ∧
    bytesOf (Gen.emitOp (opcodeRcA k)) = 41 ∧ Gen.decode (opcodeRcA k) b1 b2 = (k.opA, 1, 4) := by
  cases k <;> exact ⟨by decide +kernel, by decide +kernel, rfl⟩

/-- **RLCA, RRCA**: all states -/
theorem sim_rca (k : Rc2) (b1 b2 : Nat) : Simulates (opcodeRcA k) b1 b2 :=
  Simulates.intro (table_rca k b1 b2) rfl (by decide) (by decide) rfl fun B g _ _ hs _ _ hex =>
    ⟨_, fun _ => by cases k <;> rfl, rotc_body B k .A (aluOff' 2) 33 g _ _ hs hex⟩

/-- `SimulatesCb` for templates that use r14b as scratch: the status byte is left at 0 or 0x80 (class normal) -/
def SimulatesCbS (b1 b2 : Nat) : Prop :=
  ∃ code, decodeCode (Gen.emitCb b1) = some code ∧
  ∀ (β : Type) (B : BusOps β) (g : Regs) (m : β) (fuel : Nat) (st st' : St β), Sim g st → st.pc = 0 →
    run B code (bytesOf (Gen.emitCb b1)) fuel st = .ok st' →
    ∃ g', runOp B (Gen.decode 0xcb b1 b2).1 g m (Gen.decode 0xcb b1 b2).2.1 = .ok (g', m, STATUS_NORMAL) ∧
      Sim { g' with cycles := g'.cycles + (Gen.decode 0xcb b1 b2).2.2 / 4 } st' ∧
      st'.bus = st.bus ∧ st'.stack = st.stack ∧ (get8 st' (.lo 14) = 0 ∨ get8 st' (.lo 14) = 0x80)

theorem SimulatesCbS.intro {b1 b2 : Nat} {body : List (Nat × Instr)} {o1 o2 e n c k : Nat} {op : Op}
    (htab : decodeCode (Gen.emitCb b1) = some (body ++ [(o1, addIp n), (o2, addCy c)]) ∧ bytesOf (Gen.emitCb b1) = e ∧
      Gen.decode 0xcb b1 b2 = (op, n, k))
    (hnj : noJump body = true) (hn : n < 128) (hc : c < 128) (hk : k / 4 = c)
    (hbody : ∀ {β : Type} (B : BusOps β) (g : Regs) (st s1 : St β), Sim g st → execList B o1 body st = .ok s1 →
      ∃ g1, (∀ m, runOp B op g m n = .ok (advance g1 n, m, STATUS_NORMAL)) ∧ Sim g1 s1 ∧ StatusScratch st s1) :
    SimulatesCbS b1 b2 :=
  have ⟨code, hdec, h⟩ := simulates_of_body (fun _ => True) (fun _ => True) (fun _ st s => StatusScratch st s) scratch_untouched htab hnj hn hc hk fun B g st s1 hs _ _ => hbody B g st s1 hs
  ⟨code, hdec, fun β B g m fuel st st' hs => h β B g m fuel st st' hs trivial trivial⟩

def Rc2.op : Rc2 → Reg8 → Op
  | .rlc, r => .RotateLeftCarry r | .rrc, r => .RotateRightCarry r
def Rc2.base : Rc2 → Nat
  | .rlc => 0x00 | .rrc => 0x08
def opcodeRc (k : Rc2) (r : Reg8) : Nat := k.base + r8code r

theorem table_rc (k : Rc2) (r : Reg8) (b2 : Nat) :
    decodeCode (Gen.emitCb (opcodeRc k r)) = some ((rotcBody k r (aluOff' 2) ++ zTail r 33 35 39 42) ++ [(45, addIp 2), (49, addCy 2)]) ∧
    bytesOf (Gen.emitCb (opcodeRc k r)) = 53 ∧ Gen.decode 0xcb (opcodeRc k r) b2 = (k.op r, 2, 8) := by
  rw [decode_cb]
  revert r
  cases k <;> exact forall_reg8 (by decide +kernel)

theorem getReg_flagsRotC (g1 : Regs) (res : Nat × Bool) (r : Reg8) : getReg (flagsRot g1 res false) r = getReg g1 r := by
  have hp := rotFlagsC_pack g1 res
  obtain ⟨q1, q2, q3, _, _, _⟩ := sameButAf_flagsRotC g1 res
  have hlt := rotC_lt (g1.af % 256) res.2
  have hA := getReg_lt g1 .A
  cases r
  · show getHi (flagsRot g1 res false).af = getReg g1 .A
    rw [getHi_eq, hp]; omega
  all_goals simp only [getReg, q1, q2, q3]

/-- the Z tail after a rotate of `r` (begun at `st`) with result `res`: from the register file with C to the one with C and Z -/
theorem ztail_flagsRot (B : BusOps β) (r : Reg8) (z0 z1 z2 z3 e : Nat) {g1 : Regs} {res : Nat × Bool} (hx : getReg g1 r = res.1)
    {st s3 s6 : St β} (hu : Untouched st s3) (hs3 : Sim (flagsRot g1 res false) s3)
    (hex : execList B e (zTail r z0 z1 z2 z3) s3 = .ok s6) :
    Sim (flagsRot g1 res true) s6 ∧ StatusScratch st s6 := by
  obtain ⟨hs6, hbus, hstk, h14⟩ := ztail_body B r z0 z1 z2 z3 e (flagsRot g1 res false) (getReg g1 .A) _ (getReg_lt g1 .A)
    (rotC_lt _ _) (rotFlagsC_pack g1 res) s3 s6 hs3 hex
  rw [getReg_flagsRotC, hx] at hs6
  exact ⟨hs6, hbus.trans hu.bus, hstk.trans hu.stack, h14⟩

/-- rotate, carry, zero: the register form of RLC / RRC at any offsets -/
theorem rc_body (B : BusOps β) (k : Rc2) (r : Reg8) (o : Nat → Nat) (z0 z1 z2 z3 e : Nat) (g : Regs) (st s6 : St β) (hs : Sim g st)
    (hex : execList B e (rotcBody k r o ++ zTail r z0 z1 z2 z3) st = .ok s6) :
    Sim (flagsRot (setReg g r (k.res (getReg g r)).1) (k.res (getReg g r)) true) s6 ∧ s6.bus = st.bus ∧ s6.stack = st.stack ∧
    (get8 s6 (.lo 14) = 0 ∨ get8 s6 (.lo 14) = 0x80) := by
  obtain ⟨s3, hb1, hb2⟩ := execList_append B e _ (rotcBody k r o) st s6 hex
  obtain ⟨hs3, hu3⟩ := rotc_body B k r o _ g st s3 hs hb1
  exact ztail_flagsRot B r z0 z1 z2 z3 e (getReg_setReg_self g r _ (rot1_res k _ (getReg_lt g r) (mkFl false)).2.2) hu3 hs3 hb2

/-- **RLC r, RRC r** (2 x 7 registers): all states -/
theorem sim_rc (k : Rc2) (r : Reg8) (b2 : Nat) : SimulatesCbS (opcodeRc k r) b2 :=
  SimulatesCbS.intro (table_rc k r b2) rfl (by decide) (by decide) rfl fun B g st s6 hs hex =>
    ⟨_, fun _ => by cases k <;> rfl, rc_body B k r (aluOff' 2) 33 35 39 42 45 g st s6 hs hex⟩

end GbVerif.X86
