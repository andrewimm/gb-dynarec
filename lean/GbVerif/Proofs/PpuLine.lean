import GbVerif.Proofs.PpuSel
/-!
C15 stages (iii)–(v): the mode-3 pixel pipeline.  Loop invariant over the pixel index `i`:
the line-buffer prefix `[0, i)` equals the reference, the 16-bit shift register holds the rest of
the current tile row (BG or window), `next_cached_tile_x` is the column after it.
-/
namespace GbVerif.PpuLine
open GbVerif.Ppu GbVerif.FrameSpec GbVerif.PpuBits GbVerif.PpuObj GbVerif.PpuSel

theorem shade_eq (i : Nat) : shade i = shadeOf i := rfl

theorem okShade (x : Nat) : (.ok (shade (x &&& 3)) : Except Panic Nat) = .ok (shadeOf (x % 4)) := by rw [TimerBits.and_3]; rfl

theorem bgPalette_get (r : Ppu.Regs) (k : Nat) (hk : k < 4) :
    rd (Cfg.ofRegs r).bgPalette k = .ok (paletteShade r.bgp k) := by
  match k, hk with
  | 0, _ | 1, _ | 2, _ | 3, _ => exact okShade _

/-- the object palettes after `set_obj_palette(0, obp0)` and `set_obj_palette(1, obp1)` on the palettes `a` -/
def chain8 (a : Array Nat) (r : Ppu.Regs) : Array Nat :=
  (((((((a.set! 0 (shade (r.obp0 &&& 3))).set! 1 (shade ((r.obp0 >>> 2) &&& 3))).set! 2
      (shade ((r.obp0 >>> 4) &&& 3))).set! 3 (shade ((r.obp0 >>> 6) &&& 3))).set! 4 (shade (r.obp1 &&& 3))).set! 5
      (shade ((r.obp1 >>> 2) &&& 3))).set! 6 (shade ((r.obp1 >>> 4) &&& 3))).set! 7 (shade ((r.obp1 >>> 6) &&& 3))

theorem applyRegs_eq (c : Cfg) (r : Ppu.Regs) :
    c.applyRegs r = { (Cfg.ofRegs r) with objectPalettes := chain8 c.objectPalettes r } := by
  simp only [Cfg.ofRegs, Cfg.applyRegs, Cfg.setObjPalette, Cfg.setBgp, Cfg.setLcdControl, chain8,
    show (0 &&& 7) * 4 = 0 from rfl, show (1 &&& 7) * 4 = 4 from rfl, Nat.zero_add, Nat.add_zero]

theorem objPalettes_eq (r : Ppu.Regs) : (Cfg.ofRegs r).objectPalettes = chain8 (Array.replicate 32 0) r := by
  simp only [Cfg.ofRegs, Cfg.applyRegs, Cfg.setObjPalette, Cfg.setBgp, Cfg.setLcdControl, Cfg.new, chain8,
    show (0 &&& 7) * 4 = 0 from rfl, show (1 &&& 7) * 4 = 4 from rfl, Nat.zero_add, Nat.add_zero]

theorem size_chain8 (a : Array Nat) (r : Ppu.Regs) : (chain8 a r).size = a.size := by
  simp only [chain8, size_set!]

/-- entry `j < 8` of the object palettes: colour `j % 4` of OBP0 (`j < 4`) or OBP1 -/
def palEntry (r : Ppu.Regs) (j : Nat) : Nat := shade (((if j < 4 then r.obp0 else r.obp1) >>> (2 * (j % 4))) &&& 3)

theorem mem_chain8 (a : Array Nat) (r : Ppu.Regs) (j : Nat) (h : 8 ≤ a.size) :
    mem (chain8 a r) j = if j < 8 then palEntry r j else mem a j := by
  have hs : ∀ k, k < 8 → k < a.size := fun k hk => Nat.lt_of_lt_of_le hk h
  simp only [chain8, Array.set!_eq_setIfInBounds, mem_setIfInBounds, Array.size_setIfInBounds, hs 0 (by decide),
    hs 1 (by decide), hs 2 (by decide), hs 3 (by decide), hs 4 (by decide), hs 5 (by decide), hs 6 (by decide),
    hs 7 (by decide), and_true]
  by_cases h8 : j < 8
  · rw [if_pos h8]
    have : j = 0 ∨ j = 1 ∨ j = 2 ∨ j = 3 ∨ j = 4 ∨ j = 5 ∨ j = 6 ∨ j = 7 := by omega
    rcases this with rfl | rfl | rfl | rfl | rfl | rfl | rfl | rfl <;> rfl
  · have n : ¬ j = 7 ∧ ¬ j = 6 ∧ ¬ j = 5 ∧ ¬ j = 4 ∧ ¬ j = 3 ∧ ¬ j = 2 ∧ ¬ j = 1 ∧ ¬ j = 0 := by omega
    rw [if_neg h8, if_neg n.1, if_neg n.2.1, if_neg n.2.2.1, if_neg n.2.2.2.1, if_neg n.2.2.2.2.1,
      if_neg n.2.2.2.2.2.1, if_neg n.2.2.2.2.2.2.1, if_neg n.2.2.2.2.2.2.2]

theorem objPalettes_get (r : Ppu.Regs) (b4 : Bool) (k : Nat) (hk : k < 4) :
    rd (Cfg.ofRegs r).objectPalettes ((if b4 then 1 else 0) * 4 + k) =
      .ok (paletteShade (if b4 then r.obp1 else r.obp0) k) := by
  have hs : (Cfg.ofRegs r).objectPalettes.size = 32 := by rw [objPalettes_eq, size_chain8]; rfl
  rw [rd_ok _ _ (by rw [hs]; cases b4 <;> simp <;> omega), objPalettes_eq, mem_chain8 _ _ _ (by decide)]
  cases b4 <;> match k, hk with
  | 0, _ | 1, _ | 2, _ | 3, _ => exact okShade _

/-- the pipeline's choice between the object-cache byte `px` and the BG colour index `idx` -/
def mixM (c : Cfg) (px idx : Nat) : Except Panic Nat := do
  let bgColor ← rd c.bgPalette idx
  let objHasPriority := (px &&& 0x40) != 0 || idx == 0
  if px &&& 0x80 != 0 && objHasPriority then
    rd c.objectPalettes (((px &&& 0x1c) >>> 2) * 4 + (px &&& 3))
  else pure bgColor

theorem px_decode (b7 b4 : Bool) (col px : Nat) (hc : col < 4) (e : px = encByte b7 b4 col) :
    (px &&& 0x80 != 0) = true ∧ ((px &&& 0x40) != 0) = !b7 ∧ (px &&& 0x1c) >>> 2 = (if b4 then 1 else 0) ∧
      px &&& 3 = col := by
  subst e; revert b7 b4 col; decide

theorem mapColour_lt (r : FrameSpec.Regs) (vram : Mem) (b px py : Nat) : mapColour r vram b px py < 4 :=
  tileRowColour_lt _ _ _

theorem bgWinColour_lt (r : FrameSpec.Regs) (vram : Mem) (x ly : Nat) : bgWinColour r vram x ly < 4 := by
  unfold bgWinColour; split
  · exact mapColour_lt _ _ _ _ _
  · exact mapColour_lt _ _ _ _ _

theorem mix_spec (r : Ppu.Regs) (vram oam : Mem) (x ly : Nat) :
    mixM (Cfg.ofRegs r) (cacheByteSpec (toSpec r) vram oam x ly) (bgWinColour (toSpec r) vram x ly) =
      .ok (FrameSpec.pixel (toSpec r) vram oam x ly) := by
  have hlt := bgWinColour_lt (toSpec r) vram x ly
  unfold mixM FrameSpec.pixel pixelOf cacheByteSpec
  rw [bgPalette_get r _ hlt]
  simp only [bind, Except.bind, pure, Except.pure]
  generalize bgWinColour (toSpec r) vram x ly = bg at hlt ⊢
  cases hW : (if lcdcBit (toSpec r) 1 then winnerOf (toSpec r) vram oam (selected (toSpec r) oam ly) x ly else none) with
  | none => simp; rfl
  | some i =>
    obtain ⟨d1, d2, d3, d4⟩ := px_decode _ _ _ (specByte (toSpec r) vram oam i x ly) (objColour_lt ..) rfl
    simp only [d1, d2, d3, d4, objPalettes_get r _ _ (objColour_lt _ _ _ _ _ _)]
    cases (objAttr oam i).testBit 7 <;> cases hb : (bg == 0) <;> simp [hb, bne] <;> rfl

/-- the row register after fetching the tile at column `col` of the map at `base`, map line `l` -/
def rowAt (r : Ppu.Regs) (vram : Array Nat) (base l col : Nat) : Nat :=
  interleave
    (mem vram (getTileAddress (Cfg.ofRegs r) (mem vram (base + (col + (l >>> 3) * 32))) + (l &&& 7) * 2))
    (mem vram (getTileAddress (Cfg.ofRegs r) (mem vram (base + (col + (l >>> 3) * 32))) + (l &&& 7) * 2 + 1))

def bgLine (r : Ppu.Regs) (ly : Nat) : Nat := (ly + r.scy) % 256
def winLine (r : Ppu.Regs) (ly : Nat) : Nat := (ly + 256 - r.wy) % 256

def bgRowM (r : Ppu.Regs) (vram : Array Nat) (ly col : Nat) : Nat :=
  rowAt r vram (Cfg.ofRegs r).bgMapOffset (bgLine r ly) col
def winRowM (r : Ppu.Regs) (vram : Array Nat) (ly col : Nat) : Nat :=
  rowAt r vram (Cfg.ofRegs r).windowMapOffset (winLine r ly) col

theorem bgTileData_lt (r : FrameSpec.Regs) (idx : Nat) (h : idx < 256) : bgTileData r idx < 0x1800 := by
  unfold bgTileData
  repeat' split
  all_goals omega

theorem mapBase_eq (b : Bool) : mapBase b = 0x1800 ∨ mapBase b = 0x1c00 := by
  cases b
  · exact Or.inl rfl
  · exact Or.inr rfl

theorem shr3 (x : Nat) : x >>> 3 = x / 8 := by rw [Nat.shiftRight_eq_div_pow]

theorem fetch_ok (r : Ppu.Regs) (vram : Array Nat) (hv : vram.size = 8192) (hvb : IsBytes vram)
    (base l col : Nat) (hb : base = 0x1800 ∨ base = 0x1c00) (hl : l < 256) (hc : col < 32) :
    rd vram (base + (col + (l >>> 3) * 32)) = .ok (mem vram (base + (col + (l >>> 3) * 32))) ∧
    getTileRow (Cfg.ofRegs r) vram (mem vram (base + (col + (l >>> 3) * 32))) (l &&& 7) = .ok (rowAt r vram base l col) := by
  have h3 : l >>> 3 < 32 := by rw [shr3]; exact Nat.div_lt_of_lt_mul hl
  have h7 : l &&& 7 < 8 := by rw [and7]; exact Nat.mod_lt _ (by decide)
  have hlt := bgTileData_lt (toSpec r) (mem vram (base + (col + (l >>> 3) * 32))) (hvb _)
  rw [← tileAddr_eq r _ (hvb _)] at hlt
  have ⟨a, b⟩ : base + (col + (l >>> 3) * 32) < vram.size ∧
      getTileAddress (Cfg.ofRegs r) (mem vram (base + (col + (l >>> 3) * 32))) + (l &&& 7) * 2 + 1 < vram.size := by
    omega
  refine ⟨rd_ok vram _ a, ?_⟩
  rw [getTileRow, rd_ok vram _ (Nat.lt_of_succ_lt b), rd_ok vram _ b]
  rfl

theorem rowAt_colour (r : Ppu.Regs) (vram : Array Nat) (hvb : IsBytes vram) (base l px : Nat) :
    shiftedOut (rowAt r vram base l (px / 8)) (px % 8) = mapColour (toSpec r) (mem vram) base px l := by
  unfold rowAt mapColour
  rw [shiftedOut_interleave _ _ _ (hvb _) (hvb _) (Nat.mod_lt _ (by decide)), tileRowColour_eq, shr3, and7,
    tileAddr_eq r _ (hvb _), Nat.add_assoc base, Nat.add_comm (l / 8 * 32), Nat.mul_comm (l % 8)]

/-- the window is shown on line `ly` -/
def active (r : Ppu.Regs) (ly : Nat) : Bool := (Cfg.ofRegs r).windowEnabled && decide (r.wy ≤ ly)
/-- pixel `i` of line `ly` comes from the window -/
def srcWin (r : Ppu.Regs) (ly i : Nat) : Bool := active r ly && decide (r.wx ≤ i + 7)
/-- map column of the tile pixel `i` lies in -/
def tcol (r : Ppu.Regs) (ly i : Nat) : Nat := if srcWin r ly i then (i + 7 - r.wx) / 8 else ((i + r.scx) / 8) % 32
/-- position of pixel `i` in its tile -/
def tpos (r : Ppu.Regs) (ly i : Nat) : Nat := if srcWin r ly i then (i + 7 - r.wx) % 8 else (i + r.scx) % 8
/-- the fetched row of that tile -/
def trow (r : Ppu.Regs) (vram : Array Nat) (ly i : Nat) : Nat :=
  if srcWin r ly i then winRowM r vram ly (tcol r ly i) else bgRowM r vram ly (tcol r ly i)

theorem trow_lt (r : Ppu.Regs) (vram : Array Nat) (ly i : Nat) : trow r vram ly i < 65536 := by
  unfold trow winRowM bgRowM rowAt; split <;> exact interleave_lt' _ _

/-- the window begins at pixel `i + 1` -/
def startsWin (r : Ppu.Regs) (ly i : Nat) : Bool := active r ly && (i + 1 + 7 == r.wx)

theorem srcWin_succ (r : Ppu.Regs) (ly i : Nat) : srcWin r ly (i + 1) = (srcWin r ly i || startsWin r ly i) := by
  unfold srcWin startsWin
  cases active r ly
  · rfl
  · rw [Bool.true_and, Bool.true_and, Bool.true_and, Bool.eq_iff_iff]
    simp only [decide_eq_true_eq, Bool.or_eq_true, beq_iff_eq]
    omega

theorem srcWin_le {r : Ppu.Regs} {ly i : Nat} (h : srcWin r ly i = true) : r.wx ≤ i + 7 :=
  of_decide_eq_true (Bool.and_eq_true_iff.mp h).2

/-- pixel `i` counted from the left edge of the window's map, or of the scrolled background's -/
def mapX (r : Ppu.Regs) (ly i : Nat) : Nat := if srcWin r ly i then i + 7 - r.wx else i + r.scx

theorem tpos_eq (r : Ppu.Regs) (ly i : Nat) : tpos r ly i = mapX r ly i % 8 := by
  unfold tpos mapX; split <;> rfl

/-- the window's columns need no wrap-around: it is at most 21 tiles wide -/
theorem tcol_eq (r : Ppu.Regs) (ly i : Nat) (hi : i ≤ 160) : tcol r ly i = mapX r ly i / 8 % 32 := by
  unfold tcol mapX; split
  · exact (Nat.mod_eq_of_lt (by omega)).symm
  · rfl

theorem mapX_succ (r : Ppu.Regs) (ly i : Nat) (h : startsWin r ly i = false) :
    srcWin r ly (i + 1) = srcWin r ly i ∧ mapX r ly (i + 1) = mapX r ly i + 1 := by
  have hs : srcWin r ly (i + 1) = srcWin r ly i := by rw [srcWin_succ, h, Bool.or_false]
  refine ⟨hs, ?_⟩
  unfold mapX; rw [hs]; split
  · have := srcWin_le ‹_›; omega
  · omega

theorem succ_last (n : Nat) (h : n % 8 + 1 ≥ 8) : (n + 1) % 8 = 0 ∧ (n + 1) / 8 = n / 8 + 1 := by omega
theorem succ_inner (n : Nat) (h : n % 8 + 1 < 8) : (n + 1) % 8 = n % 8 + 1 ∧ (n + 1) / 8 = n / 8 := by omega

theorem pos_new (r : Ppu.Regs) (ly i : Nat) (hi : i < 160)
    (h : startsWin r ly i = true ∨ tpos r ly i + 1 ≥ 8) :
    tpos r ly (i + 1) = 0 ∧ tcol r ly (i + 1) = if startsWin r ly i then 0 else (tcol r ly i + 1) % 32 := by
  cases hst : startsWin r ly i
  · obtain ⟨a, b⟩ := succ_last _ (tpos_eq r ly i ▸ h.resolve_left (hst ▸ Bool.false_ne_true))
    rw [tpos_eq, tcol_eq r ly _ hi, tcol_eq r ly i (Nat.le_of_lt hi), (mapX_succ r ly i hst).2, a, b, Nat.add_mod _ 1 32]
    exact ⟨rfl, rfl⟩
  · have hs : srcWin r ly (i + 1) = true := by rw [srcWin_succ, hst, Bool.or_true]
    rw [tpos, tcol, hs, beq_iff_eq.mp (Bool.and_eq_true_iff.mp hst).2, Nat.sub_self]
    exact ⟨rfl, rfl⟩

theorem pos_same (r : Ppu.Regs) (ly i : Nat) (hi : i < 160) (h1 : startsWin r ly i = false) (h2 : tpos r ly i + 1 < 8) :
    srcWin r ly (i + 1) = srcWin r ly i ∧ tpos r ly (i + 1) = tpos r ly i + 1 ∧ tcol r ly (i + 1) = tcol r ly i := by
  obtain ⟨hs, hx⟩ := mapX_succ r ly i h1
  rw [tpos_eq] at h2
  obtain ⟨a, b⟩ := succ_inner _ h2
  rw [tpos_eq, tpos_eq, tcol_eq r ly _ hi, tcol_eq r ly i (Nat.le_of_lt hi), hx, a, b]
  exact ⟨hs, rfl, rfl⟩

theorem shifted_spec (r : Ppu.Regs) (vram : Array Nat) (hvb : IsBytes vram) (ly i : Nat) (hly : ly < 256) :
    shiftedOut (trow r vram ly i) (tpos r ly i) = bgWinColour (toSpec r) (mem vram) i ly := by
  have hw : windowAt (toSpec r) i ly = srcWin r ly i := by
    unfold windowAt srcWin active; rw [cfg_windowEnabled r]; rfl
  unfold bgWinColour trow tpos tcol
  rw [hw]
  cases hs : srcWin r ly i
  · simp only [Bool.false_eq_true, if_false]
    unfold bgRowM bgColour
    have e1 : (i + r.scx) / 8 % 32 = (i + r.scx) % 256 / 8 := (Nat.mod_mul_right_div_self _ 8 32).symm
    have e2 : (i + r.scx) % 8 = (i + r.scx) % 256 % 8 := (Nat.mod_mod_of_dvd _ (by decide)).symm
    rw [e1, e2, rowAt_colour r vram hvb, cfg_bgMap r]; rfl
  · simp only [if_true]
    unfold winRowM windowColour
    have hwy : r.wy ≤ ly := of_decide_eq_true (Bool.and_eq_true_iff.mp (Bool.and_eq_true_iff.mp hs).1).2
    have : winLine r ly = ly - r.wy := by unfold winLine; omega
    rw [rowAt_colour r vram hvb, cfg_windowMap r, this]; rfl

/-- the tail of `pixelStep`: window switch, tile fetch when the tile is used up -/
def advance (drawWindow : Bool) (vram : Array Nat) (tileX writeIndex : Nat) (s : State) : Except Panic (Nat × State) :=
  let (tileX, s) :=
    if drawWindow && writeIndex + 7 == s.cfg.windowX then (8, { s with nextTileX := 0 })
    else (tileX, s)
  if tileX ≥ 8 then do
    let s ← if drawWindow && writeIndex + 7 ≥ s.cfg.windowX then cacheNextWindowTileRow s vram
            else cacheNextTileRow s vram
    pure (0, s)
  else pure (tileX, s)

theorem pixelStep_eq (dw : Bool) (vram : Array Nat) (t wi : Nat) (s : State) {px bg color : Nat} {w' : Array Nat}
    (h1 : rd s.objCache s.objPix = .ok px)
    (hb : rd s.cfg.bgPalette ((s.tileCache &&& 0xc000) >>> 14) = .ok bg)
    (h2 : mixM s.cfg px ((s.tileCache &&& 0xc000) >>> 14) = .ok color)
    (h3 : ¬ (s.line * 160 + 160 > s.writing.size ∨ wi ≥ 160))
    (h4 : wr s.writing (s.line * 160 + wi) color = .ok w') :
    pixelStep dw vram t wi s =
      advance dw vram (t + 1) (wi + 1)
        { s with writing := w', objPix := s.objPix + 1, tileCache := (s.tileCache <<< 2) % 65536 } := by
  rw [mixM, hb] at h2
  unfold pixelStep
  simp only [h1, hb, h3, bind, Except.bind, if_false] at h2 ⊢
  -- the object and the background case: `h2` says which colour is written
  split at h2 <;> (rename_i hc; simp only [hc, h2, h4, if_true]; rfl)

theorem shl0 (x : Nat) (h : x < 65536) : (x <<< (2 * 0)) % 65536 = x := by
  simp [Nat.mod_eq_of_lt h]

/-- the row register of map column `n`: the window's if `w`, the background's otherwise -/
def srcRow (r : Ppu.Regs) (vram : Array Nat) (ly : Nat) (w : Bool) (n : Nat) : Nat :=
  if w then winRowM r vram ly n else bgRowM r vram ly n

theorem trow_eq (r : Ppu.Regs) (vram : Array Nat) (ly i : Nat) :
    trow r vram ly i = srcRow r vram ly (srcWin r ly i) (tcol r ly i) := rfl

theorem srcRow_lt (r : Ppu.Regs) (vram : Array Nat) (ly : Nat) (w : Bool) (n : Nat) : srcRow r vram ly w n < 65536 := by
  unfold srcRow winRowM bgRowM rowAt; split <;> exact interleave_lt' _ _

theorem fetch_next {β : Type} {r : Ppu.Regs} {vram : Array Nat} (hv : vram.size = 8192)
    (hvb : IsBytes vram) {s : State} {ly : Nat} (hc : s.cfg = Cfg.ofRegs r) (hl : s.line = ly) (hn : s.nextTileX < 32)
    (w : Bool) (k : State → Except Panic β) :
    (if w then cacheNextWindowTileRow s vram >>= k else cacheNextTileRow s vram >>= k) =
      k { s with tileCache := srcRow r vram ly w s.nextTileX, nextTileX := (s.nextTileX + 1) % 32 } := by
  cases w
  · obtain ⟨h1, h2⟩ := fetch_ok r vram hv hvb (Cfg.ofRegs r).bgMapOffset (bgLine r ly) s.nextTileX (by rw [cfg_bgMap r]; exact mapBase_eq _)
      (Nat.mod_lt _ (by decide)) hn
    rw [if_neg Bool.false_ne_true, srcRow, if_neg Bool.false_ne_true, cacheNextTileRow, getBgTile, hc, hl]
    rw [show (Cfg.ofRegs r).scrollY = r.scy from rfl]
    unfold bgLine at h1 h2
    simp only [bind, Except.bind, h1, h2]
    rfl
  · obtain ⟨h1, h2⟩ := fetch_ok r vram hv hvb (Cfg.ofRegs r).windowMapOffset (winLine r ly) s.nextTileX (by rw [cfg_windowMap r]; exact mapBase_eq _)
      (Nat.mod_lt _ (by decide)) hn
    rw [if_pos rfl, srcRow, if_pos rfl, cacheNextWindowTileRow, getWindowTile, hc, hl]
    rw [show (Cfg.ofRegs r).windowY = r.wy from rfl]
    unfold winLine at h1 h2
    simp only [bind, Except.bind, h1, h2]
    rfl

theorem advance_inv {r : Ppu.Regs} {vram : Array Nat} (hv : vram.size = 8192) (hvb : IsBytes vram)
    {ly i : Nat} (hi : i < 160) (s1 : State) (hc : s1.cfg = Cfg.ofRegs r) (hl : s1.line = ly)
    (hn : s1.nextTileX = (tcol r ly i + 1) % 32)
    (htc : s1.tileCache = (trow r vram ly i <<< (2 * (tpos r ly i + 1))) % 65536) :
    advance (active r ly) vram (tpos r ly i + 1) (i + 1) s1 =
      .ok (tpos r ly (i + 1), { s1 with tileCache := (trow r vram ly (i + 1) <<< (2 * tpos r ly (i + 1))) % 65536,
                                        nextTileX := (tcol r ly (i + 1) + 1) % 32 }) := by
  have hwx : s1.cfg.windowX = r.wx := by rw [hc]; rfl
  have hst : (active r ly && (i + 1 + 7 == s1.cfg.windowX)) = startsWin r ly i := by rw [hwx]; rfl
  have hsrc : (active r ly && decide (i + 1 + 7 ≥ s1.cfg.windowX)) = srcWin r ly (i + 1) := by rw [hwx]; rfl
  rw [advance, hst, trow_eq]
  cases hs : startsWin r ly i
  · simp only [Bool.false_eq_true, if_false]
    by_cases h8 : tpos r ly i + 1 ≥ 8
    · -- the tile is used up: fetch the next one
      obtain ⟨p1, p2⟩ := pos_new r ly i hi (Or.inr h8)
      rw [hs, if_neg Bool.false_ne_true, ← hn] at p2
      rw [if_pos h8, hsrc, fetch_next hv hvb hc hl (hn ▸ Nat.mod_lt _ (by decide)), p1, p2,
        shl0 _ (srcRow_lt ..)]
      rfl
    · -- same tile
      obtain ⟨q1, q2, q3⟩ := pos_same r ly i hi hs (Nat.lt_of_not_le h8)
      rw [if_neg h8, q1, q2, q3, ← trow_eq, ← htc, ← hn]
      rfl
  · -- the window starts at pixel `i + 1`
    obtain ⟨p1, p2⟩ := pos_new r ly i hi (Or.inl hs)
    rw [hs, if_pos rfl] at p2
    simp only [if_true]
    rw [if_pos (Nat.le_refl 8), fetch_next hv hvb (s := { s1 with nextTileX := 0 }) hc hl (Nat.zero_lt_succ 31),
      hsrc, p1, p2, shl0 _ (srcRow_lt ..)]
    rfl

/-- what stage (ii) says about the object line cache of line `ly` -/
def CacheOk (r : Ppu.Regs) (vram oam : Array Nat) (ly : Nat) (cache : Array Nat) : Prop :=
  cache.size = 176 ∧ ∀ x, x < 160 → mem cache (x + 8) = cacheByteSpec (toSpec r) (mem vram) (mem oam) x ly

/-- invariant before pixel `i` of line `ly` is drawn; `base` is the state when mode 3 was entered -/
structure LineInv (r : Ppu.Regs) (vram oam : Array Nat) (ly : Nat) (base : State) (i : Nat) (s : State) : Prop where
  cfg : s.cfg = Cfg.ofRegs r
  line : s.line = ly
  wsize : s.writing.size = 23040
  ocache : s.objCache = base.objCache
  opix : s.objPix = 8 + i
  wline : s.windowLine.isSome = active r ly
  vis : s.visible = base.visible
  mode : s.mode = base.mode
  dots : s.dots = base.dots
  done : ∀ j, j < i → mem s.writing (ly * 160 + j) = FrameSpec.pixel (toSpec r) (mem vram) (mem oam) j ly
  other : ∀ k, (k < ly * 160 ∨ ly * 160 + 160 ≤ k) → mem s.writing k = mem base.writing k
  next : s.nextTileX < 32

/-- the shift-register part -/
structure Pipe (r : Ppu.Regs) (vram : Array Nat) (ly i : Nat) (s : State) (t : Nat) : Prop where
  pos : t = tpos r ly i
  cache : s.tileCache = (trow r vram ly i <<< (2 * t)) % 65536
  next : s.nextTileX = (tcol r ly i + 1) % 32

theorem pixelStep_inv {r : Ppu.Regs} {vram oam : Array Nat} (hv : vram.size = 8192)
    (hvb : IsBytes vram) {ly : Nat} (hly : ly < 144) {base : State} (hco : CacheOk r vram oam ly base.objCache)
    {i t : Nat} {s : State} (hi : i < 160) (inv : LineInv r vram oam ly base i s) (pipe : Pipe r vram ly i s t) :
    ∃ t' s', pixelStep (active r ly) vram t i s = .ok (t', s') ∧ LineInv r vram oam ly base (i + 1) s' ∧
      (i + 1 < 160 → Pipe r vram ly (i + 1) s' t') := by
  have h1 : rd s.objCache s.objPix = .ok (cacheByteSpec (toSpec r) (mem vram) (mem oam) i ly) := by
    rw [inv.ocache, inv.opix, rd_ok _ _ (by rw [hco.1]; omega), Nat.add_comm 8 i, hco.2 i hi]
  have hidx : (s.tileCache &&& 0xc000) >>> 14 = bgWinColour (toSpec r) (mem vram) i ly := by
    rw [topTwo _ (by rw [pipe.cache]; exact Nat.mod_lt _ (by decide)), pipe.cache, pipe.pos,
      ← shifted_spec r vram hvb ly i (by omega)]
    rfl
  have hb := bgPalette_get r _ (bgWinColour_lt (toSpec r) (mem vram) i ly)
  have h2 := mix_spec r (mem vram) (mem oam) i ly
  rw [← hidx, ← inv.cfg] at hb h2
  have hidxlt : s.line * 160 + i < s.writing.size := by rw [inv.line, inv.wsize]; omega
  rw [pixelStep_eq _ vram t i s h1 hb h2 (by rw [inv.line, inv.wsize]; omega) (wr_ok _ _ _ hidxlt), pipe.pos]
  refine ⟨_, _, advance_inv hv hvb hi _ inv.cfg inv.line pipe.next ?_, ?_, fun _ => ⟨rfl, rfl, rfl⟩⟩
  · show (s.tileCache <<< 2) % 65536 = _
    rw [pipe.cache, pipe.pos, shl_step]
  refine ⟨inv.cfg, inv.line, (size_set! ..).trans inv.wsize, inv.ocache, congrArg Nat.succ inv.opix, inv.wline, inv.vis,
    inv.mode, inv.dots, fun j hj => ?_, fun k hk => ?_, Nat.mod_lt _ (by decide)⟩
  · refine (mem_set! _ _ _ _ hidxlt).trans ?_
    rw [inv.line]
    by_cases hji : j = i
    · rw [hji, if_pos rfl]
    · rw [if_neg fun e => hji (Nat.add_left_cancel e)]
      exact inv.done j (Nat.lt_of_le_of_ne (Nat.le_of_lt_succ hj) hji)
  · refine (mem_set! _ _ _ _ hidxlt).trans ?_
    rw [inv.line, if_neg (by omega)]
    exact inv.other k hk

theorem LineInv.setDots {r : Ppu.Regs} {vram oam : Array Nat} {ly : Nat} {base : State} {i : Nat} {s : State}
    (inv : LineInv r vram oam ly base i s) (d : Nat) :
    LineInv r vram oam ly { base with dots := d } i { s with dots := d } :=
  ⟨inv.cfg, inv.line, inv.wsize, inv.ocache, inv.opix, inv.wline, inv.vis, inv.mode, rfl, inv.done, inv.other, inv.next⟩

theorem Pipe.setDots {r : Ppu.Regs} {vram : Array Nat} {ly i : Nat} {s : State} {t : Nat}
    (p : Pipe r vram ly i s t) (d : Nat) : Pipe r vram ly i { s with dots := d } t := ⟨p.pos, p.cache, p.next⟩

theorem drawDots_inv {r : Ppu.Regs} {vram oam : Array Nat} (hv : vram.size = 8192)
    (hvb : IsBytes vram) {ly : Nat} (hly : ly < 144) {base : State} (hco : CacheOk r vram oam ly base.objCache) :
    ∀ (n i t : Nat) (s : State), i + n ≤ 160 → LineInv r vram oam ly base i s → (i < 160 → Pipe r vram ly i s t) →
      ∃ s', drawDots (active r ly) vram n t i s = .ok s' ∧ LineInv r vram oam ly base (i + n) s' ∧
        (i + n < 160 → ∃ t', Pipe r vram ly (i + n) s' t') := by
  intro n
  induction n with
  | zero => intro i t s _ inv hp; exact ⟨s, rfl, inv, fun h => ⟨t, hp h⟩⟩
  | succ n ih =>
    intro i t s hin inv hp
    obtain ⟨t', s1, h1, inv1, hp1⟩ := pixelStep_inv hv hvb hly hco (by omega) inv (hp (by omega))
    obtain ⟨s', h2, inv2, hp2⟩ := ih (i + 1) t' s1 (by omega) inv1 hp1
    rw [Nat.add_right_comm] at inv2 hp2
    exact ⟨s', by simp only [drawDots, h1, bind, Except.bind]; exact h2, inv2, hp2⟩

theorem drawStep_inv {r : Ppu.Regs} {vram oam : Array Nat} (hv : vram.size = 8192)
    (hvb : IsBytes vram) {ly : Nat} (hly : ly < 144) {base : State} (hco : CacheOk r vram oam ly base.objCache)
    {p t : Nat} {s : State} (hp4 : p + 4 ≤ 160) (inv : LineInv r vram oam ly base p s) (pipe : Pipe r vram ly p s t) :
    ∃ s', drawStep s vram p = .ok s' ∧ LineInv r vram oam ly base (p + 4) s' ∧
      (p + 4 < 160 → ∃ t', Pipe r vram ly (p + 4) s' t') := by
  have hscx : s.cfg.scrollX = r.scx := by rw [inv.cfg]; rfl
  have hwx : s.cfg.windowX = r.wx := by rw [inv.cfg]; rfl
  unfold drawStep
  -- `tile_x` at the start of the step is `tpos r ly p`
  simp only [inv.wline, hscx, hwx, and7, ← Nat.add_mod]
  exact drawDots_inv hv hvb hly hco 4 p (tpos r ly p) s hp4 inv (fun _ => pipe.pos ▸ pipe)

end GbVerif.PpuLine
