import GbVerif.Proofs.X86SimMem
/-
C01, the bus side: LD (HL),n (0x36).  `stBody` with the source byte taken from the instruction's operand token
(`mov dl, imm8`) instead of a guest register: the same helper call, the same restores; the operand byte is read from the
state's `op1` field, which pushes and moves leave alone.
-/
namespace GbVerif.X86
open GbVerif.JitCycles GbVerif.Interp
variable {β : Type}

def stiBody (addr : Nat) : List (Nat × Instr) :=
  [(0, Instr.push 0), (1, Instr.push 1), (2, Instr.push 2), (3, Instr.mov Size.q 6 addr), (6, Instr.movabs 7 512),
   (16, Instr.mov8i (R8.lo 2) 256), (18, Instr.aluI AluOp.and Size.q 2 [255, 0, 0, 0] false), (25, Instr.movabs 0 514),
   (35, Instr.callRax), (37, Instr.pop 2), (38, Instr.pop 1), (39, Instr.pop 0)]

theorem sti_body (B : BusOps β) (addr : Nat) (areg : Reg16) (nv : Nat) (hv : nv < 256) (g : Regs) (st s12 : St β) (hs : Sim g st) (hop : st.op1 = nv)
    (hareg : (get st addr).toNat % 65536 = getReg16 g areg)
    (hex : execList B 40 (stiBody addr) st = .ok s12) :
    B.write st.bus (getReg16 g areg) nv = .ok s12.bus ∧ Sim g s12 ∧ s12.stack = st.stack ∧ get s12 14 = get st 14 :=
  exec_write B [(0, 0), (1, 1), (2, 2)] [(37, 2), (38, 1), (39, 0)] hs rfl rfl (by decide) (by decide)
    (fun e s s2 hsz hr ho _ hex => hareg ▸ st_pre B st (rd := fun s => s.op1) (fun _ _ => rfl) nv hv (fun _ _ h => h.trans hop)
      hsz hr ho hex) hex

theorem table_sthli (b1 b2 : Nat) :
    decodeCode (Gen.emitOp 0x36) = some (stiBody 1 ++ [(40, addIp 2), (44, addCy 3)]) ∧ bytesOf (Gen.emitOp 0x36) = 48 ∧
      Gen.decode 0x36 b1 b2 = (.LoadImmediateToHLIndirect b1, 2, 12) :=
  ⟨by decide +kernel, by decide +kernel, rfl⟩

/-- **LD (HL),n** (every operand byte) -/
theorem sim_sthli (b1 b2 : Nat) (hb1 : b1 < 256) : SimulatesMem 0x36 b1 b2 :=
  SimulatesMem.intro_write (table_sthli b1 b2) rfl (by decide) (by decide) rfl (fun _ _ _ => rfl)
    fun B g st s1 hs h1 _ hex => sti_body B 1 .HL b1 hb1 g st s1 hs h1 hs.hl hex

end GbVerif.X86
