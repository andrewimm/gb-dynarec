import GbVerif.Proofs.X86SimAlu
/-
C01, the data side, CB page: `SimulatesCb`, the statement for a CB-prefixed encoding, and RES b,r and SET b,r for the seven
registers and the eight bits (112 encodings): one `and|or r8, imm8` (`step_alu8i`, `step_bit_sim`).
-/
namespace GbVerif.X86
open GbVerif.JitCycles GbVerif.Interp
variable {β : Type}

/-- `Simulates` for a CB-prefixed encoding `CB b1` -/
def SimulatesCb (b1 b2 : Nat) : Prop :=
  ∃ code, decodeCode (Gen.emitCb b1) = some code ∧
  ∀ (β : Type) (B : BusOps β) (g : Regs) (m : β) (fuel : Nat) (st st' : St β), Sim g st → st.pc = 0 →
    run B code (bytesOf (Gen.emitCb b1)) fuel st = .ok st' →
    ∃ g', runOp B (Gen.decode 0xcb b1 b2).1 g m (Gen.decode 0xcb b1 b2).2.1 = .ok (g', m, STATUS_NORMAL) ∧
      Sim { g' with cycles := g'.cycles + (Gen.decode 0xcb b1 b2).2.2 / 4 } st' ∧ Untouched st st'

theorem SimulatesCb.intro {b1 b2 : Nat} {body : List (Nat × Instr)} {o1 o2 e n c k : Nat} {op : Op}
    (htab : decodeCode (Gen.emitCb b1) = some (body ++ [(o1, addIp n), (o2, addCy c)]) ∧ bytesOf (Gen.emitCb b1) = e ∧
      Gen.decode 0xcb b1 b2 = (op, n, k))
    (hnj : noJump body = true) (hn : n < 128) (hc : c < 128) (hk : k / 4 = c)
    (hbody : ∀ {β : Type} (B : BusOps β) (g : Regs) (st s1 : St β), Sim g st → execList B o1 body st = .ok s1 →
      ∃ g1, (∀ m, runOp B op g m n = .ok (advance g1 n, m, STATUS_NORMAL)) ∧ Sim g1 s1 ∧ Untouched st s1) :
    SimulatesCb b1 b2 :=
  have ⟨code, hdec, h⟩ := simulates_of_body (fun _ => True) (fun _ => True) (fun _ st s => Untouched st s) (fun h u => h.trans u)
    htab hnj hn hc hk fun B g st s1 hs _ _ => hbody B g st s1 hs
  ⟨code, hdec, fun β B g m fuel st st' hs => h β B g m fuel st st' hs trivial trivial⟩

/-- `op r8, imm` for an operation that writes its result -/
theorem step_alu8i (B : BusOps β) {op : AluOp} (hne : (op == .cmp) = false) (d : R8) (k : Nat) (st : St β) (len : Nat) :
    step B st (.alu8i op d k) len =
      .ok { set8 ({ st with pc := st.pc + len } : St β) d (aluOp op 8 (get8 st d) (tokVal st k) st.fl).1 with
            fl := (aluOp op 8 (get8 st d) (tokVal st k) st.fl).2 } := by
  cases op <;> first | rfl | cases hne

/-- `and/or r8, k` on the host location of a guest register -/
theorem step_bit_sim (B : BusOps β) (op : AluOp) (hop : op = .and ∨ op = .or) (r : Reg8) (k : Nat) (hk : k < 256) (g : Regs)
    (st s1 : St β) (len : Nat) (hs : Sim g st) (h : step B st (.alu8i op (hostR8 r) k) len = .ok s1) :
    Sim (setReg g r (bitop op (getReg g r) k)) s1 ∧ Untouched st s1 := by
  have hu : Untouched st s1 := untouched_step B h rfl (by
    rcases hop with rfl | rfl <;> exact fun e => hostR8_ne14 r (Option.some.inj e))
  have hval : (aluOp op 8 (getReg g r) k st.fl).1 = bitop op (getReg g r) k := by rcases hop with rfl | rfl <;> rfl
  rw [step_alu8i B (by rcases hop with rfl | rfl <;> rfl), tokVal_small _ k hk, get8_sim hs r, hval] at h
  cases Except.ok.inj h
  exact ⟨sim_fl (set8_sim (sim_pc hs _) r _ (bitop_lt op _ _ (getReg_lt g r) hk)) _, hu⟩

def bitMask (b : Fin 8) : Nat := 2 ^ b.val
def opcodeRes (b : Fin 8) (r : Reg8) : Nat := 0x80 + 8 * b.val + r8code r
def opcodeSet (b : Fin 8) (r : Reg8) : Nat := 0xc0 + 8 * b.val + r8code r

theorem table_res (b : Fin 8) (r : Reg8) (b2 : Nat) :
    decodeCode (Gen.emitCb (opcodeRes b r)) = some ([(0, Instr.alu8i AluOp.and (hostR8 r) ((bitMask b ^^^ 0xff) % 256))] ++ [(3, addIp 2), (7, addCy 2)]) ∧
    bytesOf (Gen.emitCb (opcodeRes b r)) = 11 ∧ Gen.decode 0xcb (opcodeRes b r) b2 = (.BitClear r (bitMask b), 2, 8) ∧
    decodeCode (Gen.emitCb (opcodeSet b r)) = some ([(0, Instr.alu8i AluOp.or (hostR8 r) (bitMask b))] ++ [(3, addIp 2), (7, addCy 2)]) ∧
    bytesOf (Gen.emitCb (opcodeSet b r)) = 11 ∧ Gen.decode 0xcb (opcodeSet b r) b2 = (.BitSet r (bitMask b), 2, 8) := by
  rw [decode_cb (opcodeRes b r), decode_cb (opcodeSet b r)]
  revert b; revert r
  exact forall_reg8 (by decide +kernel)

theorem bitMask_lt (b : Fin 8) : bitMask b < 256 := by
  unfold bitMask
  have := b.isLt
  calc 2 ^ b.val ≤ 2 ^ 7 := Nat.pow_le_pow_right (by decide) (by omega)
    _ < 256 := by decide

/-- **RES b,r** (8 bits x 7 registers): all states -/
theorem sim_res (b : Fin 8) (r : Reg8) (b2 : Nat) : SimulatesCb (opcodeRes b r) b2 :=
  have ⟨hdec, hbytes, hop, _⟩ := table_res b r b2
  SimulatesCb.intro ⟨hdec, hbytes, hop⟩ rfl (by decide) (by decide) rfl fun B g _ _ hs hex =>
    ⟨_, fun _ => rfl, step_bit_sim B .and (Or.inl rfl) r _ (Nat.mod_lt _ (by decide)) g _ _ _ hs (execList_one B hex)⟩

/-- **SET b,r** (8 bits x 7 registers): all states -/
theorem sim_set (b : Fin 8) (r : Reg8) (b2 : Nat) : SimulatesCb (opcodeSet b r) b2 :=
  have ⟨_, _, _, hdec, hbytes, hop⟩ := table_res b r b2
  SimulatesCb.intro ⟨hdec, hbytes, hop⟩ rfl (by decide) (by decide) rfl fun B g _ _ hs hex =>
    ⟨_, fun _ => rfl, step_bit_sim B .or (Or.inr rfl) r _ (bitMask_lt b) g _ _ _ hs (execList_one B hex)⟩

end GbVerif.X86
