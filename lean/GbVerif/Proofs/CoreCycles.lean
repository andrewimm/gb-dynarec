import GbVerif.Model.Cpu
import GbVerif.Proofs.InterpFrame
import GbVerif.Props.C06
/-!
C09 (and C08): the cycle counter of the register file only grows inside `run_op` / `run_next_op` /
`run_code_block`, by at least one machine cycle per instruction (every decoder clock entry is ≥ 4 clocks) and by at
most 6 + 3 (largest table entry 24 clocks; a taken CALL/RET adds 3).  The lower bound on the table entries is
`C06.clocks_pos` / `C06.cb_clocks_pos`, so this file and all that import it stand above Props/C06 and the SM83 refinement.
-/
namespace GbVerif.CoreProofs
open GbVerif.Interp

section regs
variable (r : Regs)

@[simp] theorem setReg_cycles (reg : Reg8) (v : Nat) : (setReg r reg v).cycles = r.cycles := by cases reg <;> rfl
@[simp] theorem setReg16_cycles (reg : Reg16) (v : Nat) : (setReg16 r reg v).cycles = r.cycles := by cases reg <;> rfl
@[simp] theorem applyMask_cycles (m : Nat) : (applyMask r m).cycles = r.cycles := rfl
@[simp] theorem orF_cycles (m : Nat) : (orF r m).cycles = r.cycles := rfl
@[simp] theorem testZero_cycles (v : Nat) : (testZero r v).cycles = r.cycles := by unfold testZero; split <;> rfl
@[simp] theorem testHalf_cycles (f : Bool) : (testHalf r f).cycles = r.cycles := by unfold testHalf; split <;> rfl
@[simp] theorem testCarry_cycles (f : Bool) : (testCarry r f).cycles = r.cycles := by unfold testCarry; split <;> rfl
@[simp] theorem setNeg_cycles : (setNeg r).cycles = r.cycles := rfl
@[simp] theorem flagsAdd_cycles (x : Nat × Bool × Bool) : (flagsAdd r x).cycles = r.cycles := by simp [flagsAdd]
@[simp] theorem flagsSub_cycles (x : Nat × Bool × Bool) : (flagsSub r x).cycles = r.cycles := by simp [flagsSub]
@[simp] theorem opAdd_cycles (v : Nat) (d : Reg8) : (opAdd r v d).cycles = r.cycles := by simp [opAdd]
@[simp] theorem opAdc_cycles (v : Nat) (d : Reg8) : (opAdc r v d).cycles = r.cycles := by simp [opAdc]
@[simp] theorem opSub_cycles (v : Nat) (d : Reg8) : (opSub r v d).cycles = r.cycles := by simp [opSub]
@[simp] theorem opSbc_cycles (v : Nat) (d : Reg8) : (opSbc r v d).cycles = r.cycles := by simp [opSbc]
@[simp] theorem opAnd_cycles (v : Nat) (d : Reg8) : (opAnd r v d).cycles = r.cycles := by simp [opAnd]
@[simp] theorem opXor_cycles (v : Nat) (d : Reg8) : (opXor r v d).cycles = r.cycles := by simp [opXor]
@[simp] theorem opOr_cycles (v : Nat) (d : Reg8) : (opOr r v d).cycles = r.cycles := by simp [opOr]
@[simp] theorem opCp_cycles (v : Nat) : (opCp r v).cycles = r.cycles := by simp [opCp]
@[simp] theorem flagsRot_cycles (x : Nat × Bool) (z : Bool) : (flagsRot r x z).cycles = r.cycles := by
  unfold flagsRot; simp only []; split <;> simp
@[simp] theorem daa_cycles : (daa r).cycles = r.cycles := rfl

end regs

/-- normalise `.cycles` of every register-file helper by rewriting (never by kernel unfolding: the register updates
contain `% 2^32` on symbolic values) -/
macro "cycs" : tactic => `(tactic| (
  simp only [setReg_cycles, setReg16_cycles, applyMask_cycles, orF_cycles, testZero_cycles, testHalf_cycles, testCarry_cycles,
    setNeg_cycles, flagsAdd_cycles, flagsSub_cycles, opAdd_cycles, opAdc_cycles, opSub_cycles, opSbc_cycles, opAnd_cycles,
    opXor_cycles, opOr_cycles, opCp_cycles, flagsRot_cycles, daa_cycles]))

macro "cyc" : tactic => `(tactic| (
  try simp only [advance]
  try cycs
  omega))

/-- the generic leaf tactic: split the binds of `h`, read off the result, normalise `.cycles` -/
macro "leaf" h:ident : tactic => `(tactic| (
  (repeat' split at $h:ident)
  all_goals try contradiction
  all_goals try simp only [Except.ok.injEq, Prod.mk.injEq] at $h:ident
  all_goals try (obtain ⟨h1, h2, h3⟩ := $h:ident; subst h1 h2 h3)
  all_goals try (have hp := push_cycles' _ (by assumption); try simp only [] at hp)
  all_goals try (have hq := pop_cycles' _ (by assumption); try simp only [] at hq)
  all_goals try (have hr := rmwHL_cycles' _ (by assumption) (by intro v r; cycs))
  all_goals try (cyc; done)))

variable {β : Type} (B : BusOps β)

theorem push_cycles {v : Nat} {r : Regs} {m : β} : Returns (push B v r m) (fun p => p.1.cycles = r.cycles) :=
  Returns.bind fun _ _ => Returns.bind fun _ _ => Returns.pure (setReg16_cycles r _ _)

theorem pop_cycles {r : Regs} {m : β} : Returns (pop B r m) (fun p => p.2.cycles = r.cycles) :=
  Returns.bind fun _ _ => Returns.bind fun _ _ => Returns.pure (setReg16_cycles r _ _)

theorem rmwHL_cycles {r : Regs} {m : β} {f : Nat → Regs → Nat × Regs} (hf : ∀ v r, (f v r).2.cycles = r.cycles) :
    Returns (rmwHL B r m f) (fun p => p.1.cycles = r.cycles) :=
  Returns.bind fun _ _ => Returns.bind fun _ _ => Returns.pure (hf _ _)

theorem push_cycles' {v : Nat} {r : Regs} {m : β} {p : Regs × β} (h : push B v r m = .ok p) : p.1.cycles = r.cycles :=
  push_cycles B p h

theorem pop_cycles' {r : Regs} {m : β} {p : Nat × Regs} (h : pop B r m = .ok p) : p.2.cycles = r.cycles :=
  pop_cycles B p h

theorem rmwHL_cycles' {r : Regs} {m : β} {f : Nat → Regs → Nat × Regs} {p : Regs × β} (h : rmwHL B r m f = .ok p)
    (hf : ∀ v r, (f v r).2.cycles = r.cycles) : p.1.cycles = r.cycles :=
  rmwHL_cycles B hf p h

/-- the usual end of a `run_op` arm: the instruction length added to IP, cycles as before.  About a variable `X` because
`X` can hold `u32 (r.hl + 4294967295)`, which the kernel must never be asked to compare with `r.hl` -/
theorem Returns.ok_adv {X r : Regs} {len st : Nat} {m : β} (h : X.cycles = r.cycles) :
    Returns (.ok (advance X len, m, st) : Except Bus.Panic (Regs × β × Nat))
      (fun x => r.cycles ≤ x.1.cycles ∧ x.1.cycles ≤ r.cycles + 3) :=
  Returns.ok ⟨Nat.le_of_eq h.symm, Nat.le_trans (Nat.le_of_eq h) (Nat.le_add_right _ _)⟩

/-- a successful `run_op` never lowers the cycle counter and adds at most the three cycles of a taken CALL / RET -/
theorem runOp_cycles (op : Op) (r : Regs) (m : β) (len : Nat) :
    Returns (runOp B op r m len) (fun x => r.cycles ≤ x.1.cycles ∧ x.1.cycles ≤ r.cycles + 3) := by
  cases op
  case LoadToIndirect loc _ =>
    cases loc <;> dsimp only [runOp] <;> exact Returns.bind fun _ _ => Returns.ok_adv rfl
  case LoadFromIndirect _ loc =>
    cases loc <;> dsimp only [runOp] <;> exact Returns.bind fun _ _ => Returns.ok_adv (setReg_cycles ..)
  all_goals dsimp only [runOp]
  all_goals with_reducible repeat' (first
    | apply Returns.ite | (apply Returns.ok_adv; try cycs) | apply Returns.ok | apply Returns.pure | exact Returns.error
    | (apply Returns.bind_of (push_cycles B); intro _ _)
    | (apply Returns.bind_of (pop_cycles B); intro _ _)
    | (apply Returns.bind_of (rmwHL_cycles B (by intro v r; cycs)); intro _ _)
    | (apply Returns.bind; intro _ _))
  all_goals first | assumption | (dsimp only at *; omega)

/-! ### decoder clocks: every entry is between 4 and 24 clocks, for every byte value (and any `Nat`) -/

theorem opClocks_big (b0 : Nat) (h : 255 ≤ b0) : Gen.opClocks b0 = 16 := by
  unfold Gen.opClocks
  rw [if_neg (by omega), if_neg (by omega), if_neg (by omega), if_neg (by omega), if_neg (by omega), if_neg (by omega),
    if_neg (by omega), if_neg (by omega)]

theorem cbOpClocks_big (b1 : Nat) (h : 255 ≤ b1) : Gen.cbOpClocks b1 = 8 := by
  unfold Gen.cbOpClocks
  rw [if_neg (by omega), if_neg (by omega), if_neg (by omega), if_neg (by omega), if_neg (by omega), if_neg (by omega),
    if_neg (by omega), if_neg (by omega)]

theorem opClocks_le : ∀ b0, b0 < 2^8 → Gen.opClocks b0 ≤ 24 := by
  intro b0 hb
  have := Enum.forall_lt_of_allRange (fun b0 => decide (Gen.opClocks b0 ≤ 24)) 8 (by decide +kernel) b0 hb
  exact of_decide_eq_true this

theorem cbOpClocks_le : ∀ b1, b1 < 2^8 → Gen.cbOpClocks b1 ≤ 16 := by
  intro b1 hb
  have := Enum.forall_lt_of_allRange (fun b1 => decide (Gen.cbOpClocks b1 ≤ 16)) 8 (by decide +kernel) b1 hb
  exact of_decide_eq_true this

/-- the clock entry `decode` returns: at least one machine cycle, at most six, a whole number of machine cycles -/
theorem decode_clocks (b0 b1 b2 : Nat) :
    4 ≤ (Gen.decode b0 b1 b2).2.2 ∧ (Gen.decode b0 b1 b2).2.2 ≤ 24 ∧ (Gen.decode b0 b1 b2).2.2 % 4 = 0 := by
  unfold Gen.decode
  split
  · show 4 ≤ Gen.cbOpClocks b1 ∧ Gen.cbOpClocks b1 ≤ 24 ∧ Gen.cbOpClocks b1 % 4 = 0
    by_cases hb : b1 < 256
    · have := C06.cb_clocks_pos b1 hb; have := cbOpClocks_le b1 hb; omega
    · rw [cbOpClocks_big b1 (by omega)]; omega
  · rename_i hne
    show 4 ≤ Gen.opClocks b0 ∧ Gen.opClocks b0 ≤ 24 ∧ Gen.opClocks b0 % 4 = 0
    by_cases hb : b0 < 256
    · have := C06.clocks_pos b0 hb hne; have := opClocks_le b0 hb; omega
    · rw [opClocks_big b0 (by omega)]; omega

/-- `run_next_op` charges between 1 and 9 machine cycles (table entry /4, +1 for a taken JP/JR, +3 for a taken CALL/RET) -/
theorem runNextOp_cycles {r r' : Regs} {s s' : Bus.State} {st : Nat} {e : Bool}
    (h : Cpu.runNextOp r s = .ok (r', s', st, e)) : r.cycles + 1 ≤ r'.cycles ∧ r'.cycles ≤ r.cycles + 9 := by
  unfold Cpu.runNextOp at h
  obtain ⟨⟨b0, b1, b2⟩, _, h⟩ := bind_ok_elim h
  have hk := decode_clocks b0 b1 b2
  simp only [] at h
  generalize Gen.decode b0 b1 b2 = d at h hk
  obtain ⟨op, len, clocks⟩ := d
  simp only [] at h hk
  obtain ⟨⟨r1, s1, st1⟩, h1, h⟩ := bind_ok_elim h
  have hc : r.cycles ≤ r1.cycles ∧ r1.cycles ≤ r.cycles + 3 := runOp_cycles Cpu.busOps _ _ _ _ _ h1
  injection h with h; injection h with h2 h3; subst h2
  show r.cycles + 1 ≤ r1.cycles + clocks / 4 ∧ r1.cycles + clocks / 4 ≤ r.cycles + 9
  omega

theorem runCodeBlockAux_mono (start : Nat) : ∀ (fuel : Nat) (r : Regs) (s : Bus.State) (st : Nat) (r' : Regs) (s' : Bus.State) (st' : Nat),
    Cpu.runCodeBlockAux start r s st fuel = .ok (r', s', st') → r.cycles ≤ r'.cycles := by
  intro fuel
  induction fuel with
  | zero => intro r s st r' s' st' h; cases h
  | succ n ih =>
    intro r s st r' s' st' h
    rw [Cpu.runCodeBlockAux] at h
    split at h
    · injection h with h; injection h with h1; subst h1; exact Nat.le_refl _
    · obtain ⟨⟨r1, s1, st1, stop⟩, h1, h⟩ := bind_ok_elim h
      have hc := runNextOp_cycles h1
      simp only [] at h
      split at h
      · injection h with h; injection h with h2; subst h2; omega
      · have := ih _ _ _ _ _ _ h; omega

/-- `run_code_block` executes at least one instruction: the cycle counter grows by at least one machine cycle -/
theorem runCodeBlock_cycles {r r' : Regs} {s s' : Bus.State} {st : Nat} {fuel : Nat}
    (h : Cpu.runCodeBlock r s fuel = .ok (r', s', st)) : r.cycles + 1 ≤ r'.cycles := by
  unfold Cpu.runCodeBlock at h
  cases fuel with
  | zero => cases h
  | succ n =>
    rw [Cpu.runCodeBlockAux] at h
    have hne : (r.ip < 0x8000 && Cpu.romBlockMustEnd r.ip r.ip) = false := by
      unfold Cpu.romBlockMustEnd; simp
    rw [hne] at h
    simp only [Bool.false_eq_true, if_false] at h
    obtain ⟨⟨r1, s1, st1, stop⟩, h1, h⟩ := bind_ok_elim h
    have hc := runNextOp_cycles h1
    simp only [] at h
    split at h
    · injection h with h; injection h with h2; subst h2; omega
    · have := runCodeBlockAux_mono _ _ _ _ _ _ _ _ h; omega

end GbVerif.CoreProofs
