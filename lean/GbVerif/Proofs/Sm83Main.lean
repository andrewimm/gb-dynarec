import GbVerif.Proofs.Sm83Main0
import GbVerif.Proofs.Sm83Main1
import GbVerif.Proofs.Sm83Main2
import GbVerif.Proofs.Sm83Main3
import GbVerif.Proofs.Sm83MainCB
/-!
Assembly of the per-opcode refinements into the instruction-level refinement theorem, in the `conc`/`CWF` form
(`refines`) and in the `abs`/`WF` form (`step_refines`, `step_refines_model`); `runNextOp_eq` unfolds `run_next_op`
into the pieces the statement is about, and `toyBus` is a bus that satisfies the hypotheses.
-/
namespace GbVerif.C05
open GbVerif.Interp GbVerif.Enum

variable {β : Type}

theorem refines_unprefixed {B : BusOps β} (hB : ByteBus B) : ∀ b0, b0 < 2 ^ 8 → Goal B b0 :=
  forall_lt_of_ptree (Goal B) 8 ⟨⟨main_0 hB, main_1 hB⟩, ⟨main_2 hB, main_3 hB⟩⟩

/-- every defined encoding (244 unprefixed first bytes and the 256 second bytes after 0xCB, all operand bytes) -/
theorem refines {B : BusOps β} (hB : ByteBus B) (b0 b1 b2 : Nat) (h0 : b0 < 256) (h1 : b1 < 256) (h2 : b2 < 256)
    (hu : ¬ SM83.isUndefined b0 = true) : Refines B b0 b1 b2 := by
  by_cases hcb : b0 = 0xCB
  · subst hcb; exact refines_cb hB b1 h1 b2
  · exact refines_of (decode_unprefixed b1 b2 hcb) (fun _ _ => rfl) (refines_unprefixed hB b0 h0 b1 b2 h1 h2 hcb hu)

theorem mem_eq (B : BusOps β) (M : SM83.Mem β) (hR : M.read = B.read) (hW : M.write = B.write) : M = memOf B := by
  cases M; simp only [memOf] at *; subst hR hW; rfl

/-- **Instruction-level refinement (spec ⟶ model).**  For any bus, any defined opcode with any operand bytes and
any well-formed register file: if the SM83 instruction produces state `c`, memory `m₁`, `cyc` machine cycles
and outcome `out`, the interpreter step produces registers `r'` with `abs r' = c`, the same memory, the matching
status, `WF r'`, and charges exactly `cyc` cycles; and if the SM83 instruction fails on a bus access the
interpreter fails with the same panic. -/
theorem step_refines (B : BusOps β) (M : SM83.Mem β) (hR : M.read = B.read) (hW : M.write = B.write) (hB : ByteBus B)
    (b0 b1 b2 : Nat) (h0 : b0 < 256) (h1 : b1 < 256) (h2 : b2 < 256) (hu : ¬ SM83.isUndefined b0 = true)
    (r : Regs) (hr : WF r) (m : β) :
    (∀ c m₁ cyc out, SM83.step M (abs r) m b0 b1 b2 = .ok (c, m₁, cyc, out) →
      ∃ r', stepModel B b0 b1 b2 r m = .ok (r', m₁, statusOf out) ∧ abs r' = c ∧ WF r' ∧ r'.cycles = r.cycles + cyc) ∧
    (∀ e, SM83.step M (abs r) m b0 b1 b2 = .error e → stepModel B b0 b1 b2 r m = .error e) := by
  have hM := mem_eq B M hR hW
  subst hM
  have h := refines hB b0 b1 b2 h0 h1 h2 hu (abs r) r.cycles m (cwf_abs hr)
  rw [conc_abs hr] at h
  constructor
  · intro c m₁ cyc out hs
    rw [hs] at h
    obtain ⟨w, e⟩ := h
    exact ⟨conc c (r.cycles + cyc), e, abs_conc w _, wf_conc w _, rfl⟩
  · intro e hs
    rw [hs] at h
    exact h

/-- **Instruction-level refinement (model ⟶ spec).**  Whenever the interpreter step succeeds, the SM83 instruction
succeeds from the abstracted state with the abstraction of the interpreter's result, the same memory, the status
and the cycle count; the new register file is well-formed. -/
theorem step_refines_model (B : BusOps β) (M : SM83.Mem β) (hR : M.read = B.read) (hW : M.write = B.write) (hB : ByteBus B)
    (b0 b1 b2 : Nat) (h0 : b0 < 256) (h1 : b1 < 256) (h2 : b2 < 256) (hu : ¬ SM83.isUndefined b0 = true)
    (r : Regs) (hr : WF r) (m : β) (r' : Regs) (m' : β) (st : Nat)
    (hm : stepModel B b0 b1 b2 r m = .ok (r', m', st)) :
    ∃ cyc out, SM83.step M (abs r) m b0 b1 b2 = .ok (abs r', m', cyc, out) ∧ st = statusOf out ∧ WF r' ∧
      r'.cycles = r.cycles + cyc := by
  obtain ⟨h1', h2'⟩ := step_refines B M hR hW hB b0 b1 b2 h0 h1 h2 hu r hr m
  cases hs : SM83.step M (abs r) m b0 b1 b2 with
  | error e => rw [h2' e hs] at hm; cases hm
  | ok x =>
    obtain ⟨c, m₁, cyc, out⟩ := x
    obtain ⟨r'', e, ha, hw, hc⟩ := h1' c m₁ cyc out hs
    rw [e] at hm
    simp only [Except.ok.injEq, Prod.mk.injEq] at hm
    obtain ⟨rfl, rfl, rfl⟩ := hm
    exact ⟨cyc, out, by rw [ha], rfl, hw, hc⟩

/-- `Cpu.runNextOp` is the fetch followed by `stepModel` on the real bus -/
theorem runNextOp_eq (r : Regs) (s : Bus.State) :
    Cpu.runNextOp r s =
      (Cpu.fetch3 s r.ip).bind fun b =>
        (stepModel Cpu.busOps b.1 b.2.1 b.2.2 r s).map fun x =>
          (x.1, x.2.1, x.2.2, Gen.isBlockEnd (Gen.decode b.1 b.2.1 b.2.2).1) := by
  unfold Cpu.runNextOp stepModel
  cases Cpu.fetch3 s r.ip with
  | error e => rfl
  | ok b =>
    obtain ⟨b0, b1, b2⟩ := b
    simp only [bind, Except.bind]
    cases runOp Cpu.busOps (Gen.decode b0 b1 b2).1 r s (Gen.decode b0 b1 b2).2.1 <;> rfl

/-- toy bus used in examples: a total byte memory -/
def toyBus : BusOps (Nat → Nat) :=
  ⟨fun m a => .ok (m a % 256), fun m a v => .ok (fun x => if x = a then v else m x)⟩

theorem toyBus_bytes : ByteBus toyBus := by
  intro m a v h
  simp only [toyBus, Except.ok.injEq] at h
  omega

end GbVerif.C05
