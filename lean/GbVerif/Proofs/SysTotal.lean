import GbVerif.Model.Sys
import GbVerif.Proofs.BusDma
import GbVerif.Proofs.Timer
/-!
The passage of device time never panics (C11 for `MemoryAreas::run_clock_cycles` as a whole): OAM DMA with any source
page, the timer's checked `u32` addition, the LCD loop's `cycles_remaining -= 4`, from every well-formed bus state
whose timer counter is in the 16 bits the timer keeps between catch-ups.  First the equations of the device functions
(`Sys.dev` is what the machine runs; `Bus.runDma`, the copy alone, is in `BusDma.lean`); at the end, what a register
write does to the timer fields these invariants speak of.
-/
namespace GbVerif.SysProofs
open GbVerif GbVerif.Bus GbVerif.BusProofs GbVerif.CoreProofs

theorem modeOfNat_toNat (m : Lcd.Mode) : Sys.modeOfNat m.toNat = m := by cases m <;> rfl

theorem videoRun_eq (v : Bus.VideoRegs) {k : Nat} (hk : k % 4 = 0) :
    Sys.videoRun v k = .ok ({ v with mode := (Lcd.run (k / 4) (Sys.lcdOf v)).1.mode.toNat, dots := (Lcd.run (k / 4) (Sys.lcdOf v)).1.dots,
                                     line := (Lcd.run (k / 4) (Sys.lcdOf v)).1.line,
                                     frames := v.frames + Sys.vblanks (k / 4) (Sys.lcdOf v) }, (Lcd.run (k / 4) (Sys.lcdOf v)).2) := by
  unfold Sys.videoRun Lcd.runClocks
  rw [if_pos hk]

theorem videoRun_elim {v v' : Bus.VideoRegs} {k f : Nat} (h : Sys.videoRun v k = .ok (v', f)) : k % 4 = 0 := by
  by_cases hk : k % 4 = 0
  · exact hk
  · unfold Sys.videoRun Lcd.runClocks at h
    rw [if_neg hk] at h
    cases h

theorem ioRun_elim {io io' : Bus.Io} {k : Nat} (h : Sys.ioRun io k = .ok io') :
    ∃ v vf x, Sys.videoRun io.video k = .ok (v, vf) ∧
      io' = { io with timer := Sys.regsOfTimer (Timer.run (k % 2 ^ 32) (Sys.timerOf io.timer)).1, video := v,
                      joy := { io.joy with irq := false }, ifl := x } := by
  unfold Sys.ioRun Timer.runCycles at h
  simp only [] at h
  split at h
  · cases h
  · rename_i t tf ht
    split at ht
    · injection ht with ht
      obtain ⟨⟨v, vf⟩, hv, h⟩ := bind_ok_elim h
      injection h with h
      subst h
      exact ⟨v, vf, _, hv, by rw [ht]; rfl⟩
    · cases ht

theorem dev_none {s : Bus.State} (h : s.dma = none) (k : Nat) :
    Sys.dev s k = (Sys.ioRun s.io k).bind fun io => .ok { s with io := io } := by
  unfold Sys.dev; rw [h]; rfl

theorem dev_some {s : Bus.State} {source off : Nat} (h : s.dma = some (source, off)) (k : Nat) :
    Sys.dev s k = (Sys.dmaLoop s source off (min (0xa0 - off) (k / 4))).bind fun p =>
      (Sys.ioRun p.1.io (k - 4 * min (0xa0 - off) (k / 4))).bind fun io =>
        .ok { p.1 with dma := if p.2 < 0xa0 then some (source, p.2) else none, io := io } := by
  unfold Sys.dev; rw [h]; rfl

theorem dev_elim {s s' : Bus.State} {k : Nat} (h : Sys.dev s k = .ok s') :
    (s.dma = none ∧ ∃ io, Sys.ioRun s.io k = .ok io ∧ s' = { s with io := io }) ∨
    ∃ source off s1 off' io, s.dma = some (source, off) ∧
      Sys.dmaLoop s source off (min (0xa0 - off) (k / 4)) = .ok (s1, off') ∧
      Sys.ioRun s1.io (k - 4 * min (0xa0 - off) (k / 4)) = .ok io ∧
      s' = { s1 with dma := if off' < 0xa0 then some (source, off') else none, io := io } := by
  rcases Option.eq_none_or_eq_some s.dma with hd | ⟨⟨source, off⟩, hd⟩
  · rw [dev_none hd] at h
    obtain ⟨io, h1, h⟩ := bind_ok_elim h
    injection h with h
    exact .inl ⟨hd, io, h1, h.symm⟩
  · rw [dev_some hd] at h
    obtain ⟨⟨s1, off'⟩, h1, h⟩ := bind_ok_elim h
    obtain ⟨io, h2, h⟩ := bind_ok_elim h
    injection h with h
    exact .inr ⟨source, off, s1, off', io, hd, h1, h2, h.symm⟩

theorem dmaLoop_succ (s : Bus.State) (source off n : Nat) :
    Sys.dmaLoop s source off (n + 1) =
      (dmaCopyByte s source off).bind fun s1 => (Sys.ioRun s1.io 4).bind fun io => Sys.dmaLoop { s1 with io := io } source (off + 1) n := rfl

theorem dma_clocks (off : Nat) {k : Nat} (hk : k % 4 = 0) :
    4 * min (0xa0 - off) (k / 4) ≤ k ∧ (k - 4 * min (0xa0 - off) (k / 4)) % 4 = 0 := by omega

/-- the timer's cycle counter between catch-ups: `run_cycles` masks it to 16 bits, a DIV write clears it -/
def TimerOk (s : Bus.State) : Prop := s.io.timer.cycleCount < 65536

theorem runCycles_some (t : Timer.State) (k : Nat) (hc : t.cycleCount < 65536) (hk : k < 2 ^ 32 - 65536) :
    Timer.runCycles t k = some (Timer.run k t) := by
  unfold Timer.runCycles
  have h1 : k % 2 ^ 32 = k := Nat.mod_eq_of_lt (by omega)
  simp only [h1]
  rw [if_pos (by omega)]

theorem ioRun_total {io : Bus.Io} {k : Nat} (hk : k % 4 = 0) (hb : k < 2 ^ 32 - 65536) (hc : io.timer.cycleCount < 65536) :
    ∃ io', Sys.ioRun io k = .ok io' ∧ io'.timer.cycleCount < 65536 := by
  unfold Sys.ioRun
  rw [runCycles_some _ k hc hb]
  simp only [bind, Except.bind, videoRun_eq _ hk]
  exact ⟨_, rfl, Timer.run_cc_lt _ _⟩

/-- the copy loop as an induction principle: `P off` is what is known of the state at progress `off`; if from `P` the
catch-up of a trip returns and gives `P` at the next offset, the loop returns, with `P` at its end -/
theorem dmaLoop_ind (source : Nat) (P : Nat → Bus.State → Prop)
    (trip : ∀ s off v, P off s →
      ∃ io, Sys.ioRun s.io 4 = .ok io ∧ P (off + 1) { s with oam := s.oam.setIfInBounds off v, io := io }) :
    ∀ (n : Nat) {s : Bus.State}, WF s → ∀ off, P off s → off + n ≤ 0xa0 →
      ∃ s', Sys.dmaLoop s source off n = .ok (s', off + n) ∧ WF s' ∧ P (off + n) s'
  | 0, s, wf, _, hP, _ => ⟨s, rfl, wf, hP⟩
  | n+1, s, wf, off, hP, h => by
    obtain ⟨v, _, h1⟩ := dmaCopyByte_eq wf source off (by omega)
    obtain ⟨io2, h2, hP2⟩ := trip s off v hP
    obtain ⟨s3, h3, wf3, hP3⟩ := dmaLoop_ind source P trip n (wf.congr (ho := by simp)) (off + 1) hP2 (by omega)
    rw [Nat.add_right_comm] at h3 hP3
    refine ⟨s3, ?_, wf3, hP3⟩
    rw [dmaLoop_succ, h1]
    simp only [Except.bind, h2]
    exact h3

/-- **`MemoryAreas::run_clock_cycles` never panics**: any whole number of machine cycles (below 2^32 - 2^16 clocks), any
OAM-DMA state — any source page, any progress — from a well-formed bus; the result is well-formed again -/
theorem dev_total {s : Bus.State} (wf : WF s) (ht : TimerOk s) {k : Nat} (hk : k % 4 = 0) (hb : k < 2 ^ 32 - 65536) :
    ∃ s', Sys.dev s k = .ok s' ∧ WF s' ∧ TimerOk s' := by
  cases hd : s.dma with
  | none =>
    obtain ⟨io', h1, ht1⟩ := ioRun_total hk hb ht
    rw [dev_none hd, h1]
    exact ⟨_, rfl, wf.congr, ht1⟩
  | some p =>
    obtain ⟨source, off⟩ := p
    obtain ⟨hn, hn4⟩ := dma_clocks off hk
    rw [dev_some hd]
    by_cases ho : off ≤ 0xa0
    · obtain ⟨s1, h1, wf1, ht1⟩ := dmaLoop_ind source (fun _ => TimerOk) (fun _ _ _ => ioRun_total (k := 4) (by decide) (by decide))
        (min (0xa0 - off) (k / 4)) wf off ht (by omega)
      obtain ⟨io', h2, ht2⟩ := ioRun_total (io := s1.io) hn4 (by omega) ht1
      rw [h1]
      simp only [Except.bind, h2]
      exact ⟨_, rfl, wf1.congr, ht2⟩
    · have hz : min (0xa0 - off) (k / 4) = 0 := by omega
      obtain ⟨io', h2, ht2⟩ := ioRun_total hk hb ht
      simp only [hz, Sys.dmaLoop, Except.bind, Nat.mul_zero, Nat.sub_zero, h2]
      exact ⟨_, rfl, wf.congr, ht2⟩

theorem setControl_timer (t : Bus.TimerRegs) (v : Nat) :
    (t.setControl v).1.cycleCount = t.cycleCount ∧ (t.setControl v).1.clockMask < 65536 := by
  unfold Bus.TimerRegs.setControl
  simp only []
  generalize (if v &&& 4 != 0 then 0xffff else 0 : Nat) = en
  -- the four clock selects; then whether the falling edge bumps TIMA, and whether TIMA overflows
  split <;> split <;> (try split)
  all_goals exact ⟨rfl, show _ <<< _ < 65536 by decide⟩

theorem setByte_timer (io : Bus.Io) (a v : Nat) :
    ((io.setByte a v).timer.cycleCount = io.timer.cycleCount ∨ (io.setByte a v).timer.cycleCount = 0) ∧
    ((io.setByte a v).timer.clockMask = io.timer.clockMask ∨ (io.setByte a v).timer.clockMask < 65536) := by
  unfold Bus.Io.setByte
  split
  case h_4 => exact ⟨.inr rfl, .inl rfl⟩
  case h_7 => exact ⟨.inl (setControl_timer io.timer v).1, .inr (setControl_timer io.timer v).2⟩
  all_goals exact ⟨.inl rfl, .inl rfl⟩

theorem setByte_timerOk (io : Bus.Io) (a v : Nat) (h : io.timer.cycleCount < 65536) : (io.setByte a v).timer.cycleCount < 65536 := by
  rcases (setByte_timer io a v).1 with e | e <;> omega

end GbVerif.SysProofs
