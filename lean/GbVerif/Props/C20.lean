import GbVerif.Model.Debug
import GbVerif.Spec.Debug
import GbVerif.Proofs.DebugAddr
import GbVerif.Proofs.DebugCmd
import GbVerif.Proofs.DebugDisasm
/-!
C20 — debugger command parsing and disassembly.  Property theorems only.

`E : Env` are Rust's Unicode tables (`char::is_whitespace`, `char::to_lowercase`); every theorem holds for
**every** `E` that behaves as documented on the 128 ASCII chars (`E.AsciiOk`, nothing is assumed about
non-ASCII chars — in particular whitespace around words may be any chars `E` calls whitespace), for every
line / token of arbitrary Unicode chars.  `rust_ascii_ok` shows the instance the correspondence replays is one.

Interpretation fixed in DESIGN.md "C20": malformed = what Rust's integer grammar rejects; one leading `+` is
part of that grammar and accepted (`addr_plus`).
-/
namespace GbVerif.C20
open GbVerif.Debug GbVerif.DebugSpec GbVerif.DebugAddr GbVerif.DebugCmd GbVerif.DebugDisasm

/-- the replayed instance of the tables satisfies the assumption of all theorems below -/
theorem rust_ascii_ok : rust.AsciiOk := by
  have h : ∀ n, n < 128 →
      (unicodeWhite (Char.ofNat n) = ((Char.ofNat n).toNat == 32 || (9 ≤ (Char.ofNat n).toNat && (Char.ofNat n).toNat ≤ 13))
        ∧ rustLower (Char.ofNat n) = [asciiLower (Char.ofNat n)]) := by decide +kernel
  constructor
  · intro c hc; have := (h c.toNat hc).1; rwa [← char_eq_ofNat] at this
  · intro c hc; have := (h c.toNat hc).2; rwa [← char_eq_ofNat] at this

/-- **Totality and meaning.** `parse_command` is a total function (the model has no panic path: every Rust
operation in it is total, including `get_unchecked(2..)` after `starts_with("0x")`), and for *every* line its
answer is one the spec allows: exactly the spelled command if the line spells one; `none` if it does not and
its first two words are ASCII; and any address it carries is the value of the well-formed numeral in the
second word. -/
theorem parse_total (E : Env) (hE : E.AsciiOk) (line : List Char) :
    ∃ r : Option Command, parseCommand E line = r ∧ allows E.isWhite line (r.map toSpec) = true :=
  ⟨_, rfl, parse_allowed E hE line⟩

/-- On lines whose first two words are ASCII the parser *is* the spec.
Full statement (all lines) is false for the real tables: U+212A KELVIN SIGN lowercases to `k`, so
`breaK 5` is accepted as `break 5` (second example below) — hence `_partial`; `parse_total` is the
statement for all lines. -/
theorem parse_eq_spec_partial (E : Env) (hE : E.AsciiOk) (line : List Char)
    (h : ((tokens E.isWhite line).take 2).all (fun w => w.all isAscii) = true) :
    (parseCommand E line).map toSpec = command? E.isWhite line := by
  have := parse_allowed E hE line
  unfold allows at this
  simp only [Bool.and_eq_true] at this
  have h1 := this.1
  cases hc : command? E.isWhite line with
  | some c => rw [hc] at h1; simpa using h1
  | none => rw [hc] at h1; simpa [h] using h1

example : ((tokens rust.isWhite " \tInFo  REGisters x".toList).take 2).all (fun w => w.all isAscii) = true ∧
    parseCommand rust " \tInFo  REGisters x".toList = some .readRegisters := by decide +kernel

example : parseCommand rust "breaK 5".toList = some (.breakSet 5) ∧
    command? rust.isWhite "breaK 5".toList = none := by decide +kernel

/-- Commands without argument: any whitespace (as `E` defines it, Unicode included) before, any ASCII letter case,
then end of line or whitespace and anything at all. -/
theorem cmd_case_ws_noarg (E : Env) (hE : E.AsciiOk) (pre w rest : List Char)
    (hpre : ∀ c ∈ pre, E.isWhite c = true)
    (hrest : rest = [] ∨ ∃ c r, rest = c :: r ∧ E.isWhite c = true) :
    ((foldAscii? w = some "c".toList ∨ foldAscii? w = some "continue".toList) →
        parseCommand E (pre ++ w ++ rest) = some .continue_) ∧
    ((foldAscii? w = some "s".toList ∨ foldAscii? w = some "step".toList) →
        parseCommand E (pre ++ w ++ rest) = some .step) := by
  obtain ⟨_, hc, hcont, _, _, _, hs, hstep, _, _⟩ := letters_words
  obtain ⟨_, e2, e3, _, _, _, e7, e8, _, _⟩ := words_eq
  rw [e2, e3, e7, e8]
  exact ⟨fun h => h.elim (parse_line_word E hE pre w rest _ hpre · hc hrest)
      (parse_line_word E hE pre w rest _ hpre · hcont hrest),
    fun h => h.elim (parse_line_word E hE pre w rest _ hpre · hs hrest)
      (parse_line_word E hE pre w rest _ hpre · hstep hrest)⟩

example : foldAscii? "cOnTiNuE".toList = some "continue".toList ∧
    parseCommand rust "　\t cOnTiNuE  zzz".toList = some .continue_ := by decide +kernel

/-- Commands with an address: word in any case, whitespace, the address token, then end of line or whitespace
and anything; the address is whatever `parse_address` makes of the token (`addr_*` below). -/
theorem cmd_case_ws_addr (E : Env) (hE : E.AsciiOk) (pre w mid a rest : List Char)
    (hpre : ∀ c ∈ pre, E.isWhite c = true)
    (hmid : mid ≠ [] ∧ ∀ c ∈ mid, E.isWhite c = true)
    (ha : a ≠ [] ∧ ∀ c ∈ a, E.isWhite c = false)
    (hrest : rest = [] ∨ ∃ c r, rest = c :: r ∧ E.isWhite c = true) :
    (foldAscii? w = some "break".toList →
        parseCommand E (pre ++ w ++ (mid ++ a ++ rest)) = (parseAddress E a).map .breakSet) ∧
    ((foldAscii? w = some "p".toList ∨ foldAscii? w = some "print".toList) →
        parseCommand E (pre ++ w ++ (mid ++ a ++ rest)) = (parseAddress E a).map .readMemory) := by
  obtain ⟨hb, _, _, _, hp, hprint, _, _, _, _⟩ := letters_words
  obtain ⟨e1, _, _, _, e5, e6, _, _, _, _⟩ := words_eq
  rw [e1, e5, e6]
  have arm : ∀ k mk, lettersOnly k →
      (chain E k (some a) = match parseAddress E a with
        | none => none
        | some addr => some (mk addr)) →
      foldAscii? w = some k → parseCommand E (pre ++ w ++ (mid ++ a ++ rest)) = (parseAddress E a).map mk :=
    fun k mk hk hc h => by
      rw [parse_line_word2 E hE pre w mid a rest k hpre h hk hmid ha hrest, hc]
      cases parseAddress E a <;> rfl
  exact ⟨arm wBreak .breakSet hb rfl,
    fun h => h.elim (arm wP .readMemory hp rfl) (arm wPrint .readMemory hprint rfl)⟩

example : parseCommand rust "  BREAK\t0x00fF \n".toList = some (.breakSet 255) ∧
    parseCommand rust "Print +00077".toList = some (.readMemory 77) ∧
    parseCommand rust "p 65536".toList = none := by decide +kernel

/-- `info reg` / `info registers`, both words in any case. -/
theorem cmd_case_ws_info (E : Env) (hE : E.AsciiOk) (pre w mid w2 rest : List Char)
    (hpre : ∀ c ∈ pre, E.isWhite c = true)
    (hmid : mid ≠ [] ∧ ∀ c ∈ mid, E.isWhite c = true)
    (hrest : rest = [] ∨ ∃ c r, rest = c :: r ∧ E.isWhite c = true)
    (hw : foldAscii? w = some "info".toList)
    (hw2 : foldAscii? w2 = some "reg".toList ∨ foldAscii? w2 = some "registers".toList) :
    parseCommand E (pre ++ w ++ (mid ++ w2 ++ rest)) = some .readRegisters := by
  obtain ⟨_, _, _, hi, _, _, _, _, hr, hrs⟩ := letters_words
  obtain ⟨_, _, _, e4, _, _, _, _, e9, e10⟩ := words_eq
  rw [e4] at hw; rw [e9, e10] at hw2
  obtain ⟨k2, hf2, hl2, hk2⟩ : ∃ k2, foldAscii? w2 = some k2 ∧ lettersOnly k2 ∧ (k2 = wReg ∨ k2 = wRegisters) :=
    hw2.elim (fun h => ⟨_, h, hr, Or.inl rfl⟩) (fun h => ⟨_, h, hrs, Or.inr rfl⟩)
  rw [parse_line_word2 E hE pre w mid w2 rest _ hpre hw hi hmid
    ⟨fold_ne_nil hf2 hl2.1, fold_not_white hE hf2 hl2⟩ hrest]
  show (if norm E w2 = wReg ∨ norm E w2 = wRegisters then _ else _) = _
  rw [norm_fold hE hf2 hl2, if_pos hk2]

example : parseCommand rust " iNFO \t rEGISTERs".toList = some .readRegisters := by decide +kernel

/-- **`parse_address` computes exactly the spec's 16-bit address of the trimmed token** — for every token of
arbitrary Unicode chars and every `Env` (no assumption at all): well-formed numerals below 65536 are accepted
with their value, everything else is rejected. -/
theorem addr_spec (E : Env) (tok : List Char) : parseAddress E tok = address? (trim E tok) :=
  parseAddress_eq E tok

/-- A decimal digit string — any number of leading zeros — parses to its positional value iff that is below 65536. -/
theorem addr_dec_value (E : Env) (hE : E.AsciiOk) (cs : List Char) (ds : List Nat) (hne : cs ≠ [])
    (h : digits? 10 cs = some ds) :
    parseAddress E cs = if valueOf 10 ds < 65536 then some (valueOf 10 ds) else none :=
  parseAddress_dec_digits hE hne h

/-- `0x` + a hexadecimal digit string — any leading zeros, any mix of letter case — parses to its positional
value iff that is below 65536. -/
theorem addr_hex_value (E : Env) (hE : E.AsciiOk) (cs : List Char) (ds : List Nat) (hne : cs ≠ [])
    (h : digits? 16 cs = some ds) :
    parseAddress E ('0' :: 'x' :: cs) = if valueOf 16 ds < 65536 then some (valueOf 16 ds) else none :=
  parseAddress_hex_digits hE hne h

example : digits? 16 "00fFfF".toList = some [0, 0, 15, 15, 15, 15] ∧ valueOf 16 [0, 0, 15, 15, 15, 15] = 65535 := by
  decide +kernel

/-- **Decimal round trip, all 65536 addresses**: Lean's own decimal rendering of `n` (`Nat.toDigits 10 n`, the
chars of `toString n`), preceded by any number of zeros, parses to exactly `n`. -/
theorem addr_dec_roundtrip (E : Env) (hE : E.AsciiOk) (n : Nat) (hn : n < 65536) (z : Nat) :
    parseAddress E (List.replicate z '0' ++ Nat.toDigits 10 n) = some n := by
  rw [parseAddress_dec_toDigits hE, if_pos hn]

theorem addr_dec_roundtrip_string (E : Env) (hE : E.AsciiOk) (n : Nat) (hn : n < 65536) :
    parseAddress E (toString n).toList = some n := by
  have := addr_dec_roundtrip E hE n hn 0
  simpa using this

/-- **Hexadecimal round trip, all 65536 addresses**: `0x`, any number of zeros, then the hexadecimal rendering
of `n` with every letter independently in lower or upper case (`f` chooses per char) parses to exactly `n`. -/
theorem addr_hex_roundtrip (E : Env) (hE : E.AsciiOk) (n : Nat) (hn : n < 65536) (z : Nat)
    (f : Char → Char) (hf : ∀ c, f c = c ∨ f c = c.toUpper) :
    parseAddress E ('0' :: 'x' :: (List.replicate z '0' ++ (Nat.toDigits 16 n).map f)) = some n := by
  rw [parseAddress_hex_toDigits hE f hf, if_pos hn]

example : Nat.toDigits 16 0xBEEF = "beef".toList ∧ (Nat.toDigits 16 0xBEEF).map Char.toUpper = "BEEF".toList := by
  decide +kernel

/-- Out-of-range numbers are rejected, in both notations, whatever the leading zeros / letter case. -/
theorem addr_reject_range (E : Env) (hE : E.AsciiOk) (n : Nat) (hn : 65536 ≤ n) (z : Nat)
    (f : Char → Char) (hf : ∀ c, f c = c ∨ f c = c.toUpper) :
    parseAddress E (List.replicate z '0' ++ Nat.toDigits 10 n) = none ∧
    parseAddress E ('0' :: 'x' :: (List.replicate z '0' ++ (Nat.toDigits 16 n).map f)) = none := by
  rw [parseAddress_dec_toDigits hE, parseAddress_hex_toDigits hE f hf, if_neg (by omega)]
  exact ⟨rfl, rfl⟩

/-- Empty and all-whitespace tokens are rejected. -/
theorem addr_reject_empty (E : Env) (tok : List Char) (h : ∀ c ∈ tok, E.isWhite c = true) :
    parseAddress E tok = none := by
  rw [parseAddress_eq, trim_white E tok h]; rfl

/-- Decimal notation (token not starting with `0x`): any character that is not a decimal digit or `+` — a
letter (hex digits included), `X`, `-`, an embedded space, a Unicode digit, … — makes the token rejected. -/
theorem addr_reject_nondecimal (E : Env) (tok : List Char) (c : Char) (hc : c ∈ trim E tok)
    (h0x : (trim E tok).take 2 ≠ ['0', 'x']) (hd : digit? 10 c = none) (hp : c ≠ '+') :
    parseAddress E tok = none := by
  rw [parseAddress_eq, address?_eq, if_neg h0x, numeral_none 10 _ c hc hd hp]; rfl

example : 'a' ∈ trim rust "12a".toList ∧ (trim rust "12a".toList).take 2 ≠ ['0', 'x'] ∧ digit? 10 'a' = none ∧
    'X' ∈ trim rust " 0X10".toList ∧ (trim rust " 0X10".toList).take 2 ≠ ['0', 'x'] ∧ digit? 10 'X' = none := by
  decide +kernel

/-- Any character that is not a hexadecimal digit, `+` or `x` — a letter, `X`, `-`, an embedded space, a
Unicode digit, … — anywhere in the trimmed token makes it rejected, in either notation. -/
theorem addr_reject_nondigit (E : Env) (tok : List Char) (c : Char) (hc : c ∈ trim E tok)
    (hd : digit? 16 c = none) (hp : c ≠ '+') (hx : c ≠ 'x') : parseAddress E tok = none := by
  have hd10 : digit? 10 c = none := by
    cases h : digit? 10 c with
    | none => rfl
    | some d => rw [digit?_10_16 h] at hd; cases hd
  by_cases ht : (trim E tok).take 2 = ['0', 'x']
  · rw [parseAddress_eq, address?_eq, if_pos ht]
    rw [← List.take_append_drop 2 (trim E tok), ht] at hc
    have : c ∈ (trim E tok).drop 2 := by
      rcases List.mem_append.mp hc with h | h
      · rcases (by simpa using h : c = '0' ∨ c = 'x') with rfl | rfl
        · exact absurd hd (by decide)
        · exact absurd rfl hx
      · exact h
    rw [numeral_none 16 _ c this hd hp]; rfl
  · exact addr_reject_nondecimal E tok c hc ht hd10 hp

example : 'g' ∈ trim rust "0x1g".toList ∧ digit? 16 'g' = none ∧ ' ' ∈ trim rust "0x1 2".toList ∧ digit? 16 ' ' = none ∧
    '٣' ∈ trim rust "٣".toList ∧ digit? 16 '٣' = none := by decide +kernel

/-- A `-` sign is rejected: directly, and after `0x`; whatever follows. -/
theorem addr_reject_minus (E : Env) (hE : E.AsciiOk) (s : List Char) :
    parseAddress E ('-' :: s) = none ∧ parseAddress E ('0' :: 'x' :: '-' :: s) = none := by
  have key : ∀ p : List Char, '-' ∈ p → (∀ c ∈ p, c ∈ digitChars ++ digitCharsUpper ++ ['+', '-', 'x']) →
      parseAddress E (p ++ s) = none := by
    intro p hm hp
    obtain ⟨s', hs', _⟩ := trim_prefix E p s (List.ne_nil_of_mem hm) fun c hc => not_white_of_mem hE (hp c hc)
    exact addr_reject_nondigit E _ '-' (by rw [hs']; exact List.mem_append_left _ hm)
      (digit?_none (by decide) 16) (by decide) (by decide)
  exact ⟨key ['-'] (by decide) (by decide), key ['0', 'x', '-'] (by decide) (by decide)⟩

example : parseAddress rust "12a".toList = none ∧ parseAddress rust "0X10".toList = none ∧
    parseAddress rust "1 2".toList = none ∧ parseAddress rust "٣".toList = none ∧
    parseAddress rust "0x".toList = none ∧ parseAddress rust "+".toList = none ∧
    parseAddress rust "++5".toList = none ∧ parseAddress rust "0x0x1".toList = none := by decide +kernel

/-- The fixed interpretation: one leading `+` belongs to the integer grammar and is accepted (both notations);
surrounding whitespace of the token is trimmed. -/
theorem addr_plus : parseAddress rust "+5".toList = some 5 ∧ parseAddress rust "0x+5".toList = some 5 ∧
    parseAddress rust " 12 ".toList = some 12 := by decide +kernel

/-- what the theorems use of the generated decoder table: every length is 1, 2 or 3 and covers the operand
bytes the arm reads -/
theorem decoder_lengths (b0 b1 : Nat) (h0 : b0 < 256) (h1 : b1 < 256) :
    1 ≤ Gen.instrLen b0 b1 ∧ Gen.instrLen b0 b1 ≤ 3 ∧ Gen.instrReads b0 b1 + 1 ≤ Gen.instrLen b0 b1 :=
  instr_facts h0 h1

/-- **Tiling.** Disassembling the concatenation of any list of complete instructions (`Complete`: bytes of
which the first — after the prefix byte, the first two — select a decoder arm whose length is the number of
bytes), from any start address, returns exactly one entry per instruction, in order, whose bytes are that
instruction, whose length is the decoder's length for it and whose address is the start address plus the
lengths before it, modulo 2^16 (`layout`). -/
theorem disasm_tiles (a : Nat) (is : List (List Nat)) (his : ∀ i ∈ is, Complete i) :
    disassemble a is.flatten = .ok ((layout a is).map ofItem) :=
  loop_tiles is his is.flatten.length a (Nat.le_refl _)

example : Complete [0x01, 0x34, 0x12] ∧ Complete [0xCB, 0x7C] ∧ Complete [0x10, 0x00] ∧ Complete [0xD3] ∧
    disassemble 0xFFFE [0x01, 0x34, 0x12, 0xCB, 0x7C, 0x10, 0x00, 0xD3] =
      .ok [⟨0xFFFE, 3, [0x01, 0x34, 0x12]⟩, ⟨1, 2, [0xCB, 0x7C]⟩, ⟨3, 2, [0x10, 0x00]⟩, ⟨5, 1, [0xD3]⟩] := by
  refine ⟨⟨_, _, rfl, by decide, by decide, by decide⟩, ⟨_, _, rfl, by decide, by decide, by decide⟩,
    ⟨_, _, rfl, by decide, by decide, by decide⟩, ⟨_, _, rfl, by decide, by decide, by decide⟩, by rfl⟩

/-- the listed lengths sum to the size of the input, there is one entry per instruction, and entry `k` is
instruction `k` at address `a + (bytes before it) mod 2^16` with the decoder's length -/
theorem disasm_exact (a : Nat) (ha : a < 65536) (is : List (List Nat)) (his : ∀ i ∈ is, Complete i) :
    ∃ out, disassemble a is.flatten = .ok out ∧ out.length = is.length ∧
      (out.map (·.length)).sum = is.flatten.length ∧
      ∀ k (hk : k < is.length), ∃ b0 rest, is[k] = b0 :: rest ∧
        out[k]? = some ⟨(a + (is.take k).flatten.length) % 65536, Gen.instrLen b0 (rest.headD 0), is[k]⟩ := by
  refine ⟨_, disasm_tiles a is his, ?_, ?_, ?_⟩
  · simp [layout_length]
  · have := layout_sum a is
    simpa [List.map_map, ofItem, Function.comp_def] using this
  · intro k hk
    obtain ⟨b0, rest, hi, _, _, hlen⟩ := his is[k] (List.getElem_mem hk)
    refine ⟨b0, rest, hi, ?_⟩
    rw [List.getElem?_map, layout_get a ha is k hk, ← hlen]
    rfl

/-- On *arbitrary* bytes `disassemble` either returns or stops on an out-of-range index (the sequence ends
inside an instruction — outside the property's premise); it never loops and never overruns `bytes: [u8; 4]`. -/
theorem disasm_total (a : Nat) (bs : List Nat) (hb : ∀ b ∈ bs, b < 256) :
    (∃ out, disassemble a bs = .ok out) ∨ disassemble a bs = .error .oob :=
  loop_total bs.length a bs hb (Nat.le_refl _)

example : disassemble 0 [0x00, 0x01, 0x34] = .error .oob ∧ disassemble 0 [0xCB] = .error .oob := ⟨by rfl, by rfl⟩

end GbVerif.C20
