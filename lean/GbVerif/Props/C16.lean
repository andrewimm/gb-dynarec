import GbVerif.Proofs.BusDma
import GbVerif.Proofs.SysBatch
/-!
C16 — OAM DMA copies exactly 160 bytes, one per machine cycle.

Over the bus model (`Model/Bus.lean`: `write` at 0xFF46, `dmaCopyByte`, `dmaLoop`, `runDma` mirror
`memory_write_byte` and the copy loop of `MemoryAreas::run_clock_cycles`).  A catch-up batch of `c` clocks performs
`min (160 - progress) (c / 4)` copy steps; each step reads one source byte through `Bus.read` — the normal memory
map in the state *at that step* — and stores it with `Bus.write` at 0xFE00+offset.
Lemmas: `Proofs/BusDma.lean` (on top of `Proofs/BusBasic.lean`, `Proofs/BusWf.lean`).
-/
namespace GbVerif.C16
open GbVerif.Bus GbVerif.BusProofs

/-- number of bytes copied so far: the offset of an active transfer, 160 when it is finished (or none was started) -/
def progress (s : State) : Nat := match s.dma with
  | some (_, off) => off
  | none => 160

/-- the DMA state the guest can produce: a page-aligned 16-bit source and fewer than 160 bytes done -/
def DmaOk (s : State) : Prop := ∀ src off, s.dma = some (src, off) → off < 160 ∧ ∃ page, page < 256 ∧ src = page * 256

/-- a write to 0xFF46 (re)starts the transfer at offset 0 from page `v`, whatever the progress was; nothing else
changes except the register's read-back value -/
theorem dma_restart (s : State) (v : Nat) :
    write s 0xff46 v = .ok { s with dmaReg := v, dma := some (v * 256, 0) } := by
  rw [show v * 256 = v <<< 8 by rw [Nat.shiftLeft_eq]]; rfl

/-- every other write leaves the transfer alone (source bytes and bank registers may change under it) -/
theorem dma_survives_write {s s' : State} {a v : Nat} (wf : WF s) (ha : a < 65536) (hne : a ≠ 0xff46)
    (h : write s a v = .ok s') : s'.dma = s.dma := write_keeps_dma hne h

/-- `DmaOk` holds initially and is kept by every byte write and every batch -/
theorem dmaok_create (k : Cart.Kind) (rb mb : Nat) (rom : Nat → Nat) : DmaOk (create k rb mb rom) := by
  intro src off h; cases h

theorem dmaok_write {s s' : State} {a v : Nat} (wf : WF s) (ok : DmaOk s) (ha : a < 65536) (hv : v < 256)
    (h : write s a v = .ok s') : DmaOk s' := by
  by_cases hne : a = 0xff46
  · subst hne
    rw [dma_restart] at h; injection h with h; subst h
    intro src off hd; injection hd with hd; injection hd with h1 h2
    exact ⟨by omega, v, hv, h1.symm⟩
  · intro src off hd; rw [write_keeps_dma hne h] at hd; exact ok src off hd

/-- **one batch, in full**: from progress `off`, a batch of `c` clocks copies bytes `off … min (off + c/4) 160 - 1`:
afterwards each of these OAM bytes reads what its source address XX00+i read, through the whole memory map
(ROM banks, cartridge RAM banks, echo, I/O registers, OAM itself), in the state before the batch; every other
address of the 64 KiB space reads as before; every state component other than OAM and the DMA progress is
untouched; the transfer stays active exactly while fewer than 160 bytes are done. -/
theorem dma_batch {s : State} (wf : WF s) {page off : Nat} (hp : page < 256) (hd : s.dma = some (page * 256, off))
    (ho : off ≤ 160) (c : Nat) :
    ∃ o, o.size = 160 ∧
      runDma s c = .ok { s with oam := o, dma := if off + c / 4 < 160 then some (page * 256, off + c / 4) else none } ∧
      (∀ i, off ≤ i → i < min (off + c / 4) 160 → read { s with oam := o } (0xfe00 + i) = read s (page * 256 + i)) ∧
      (∀ a, a < 65536 → ¬ (0xfe00 + off ≤ a ∧ a < 0xfe00 + min (off + c / 4) 160) → read { s with oam := o } a = read s a) := by
  obtain ⟨o, hsz, hrun, hframe, hcopy⟩ := runDma_spec wf page off hp hd ho c
  exact ⟨o, hsz.trans wf.oam, hrun, hcopy, hframe⟩

/-- after `k` machine cycles exactly `min (off + k) 160` bytes are done, and the transfer is over iff that is 160 -/
theorem dma_progress {s : State} (wf : WF s) {page off : Nat} (hp : page < 256) (hd : s.dma = some (page * 256, off))
    (ho : off ≤ 160) (k : Nat) :
    ∃ s', runDma s (4 * k) = .ok s' ∧ progress s' = min (off + k) 160 ∧ (s'.dma = none ↔ 160 ≤ off + k) := by
  obtain ⟨o, _, hrun, _, _⟩ := dma_batch wf hp hd ho (4 * k)
  rw [show 4 * k / 4 = k by omega] at hrun
  by_cases h : off + k < 160
  · rw [if_pos h] at hrun
    exact ⟨_, hrun, by simp only [progress]; omega, fun h' => (nomatch h'), fun h' => by omega⟩
  · rw [if_neg h] at hrun
    exact ⟨_, hrun, by simp only [progress]; omega, fun _ => by omega, fun _ => rfl⟩

/-- **the whole transfer**: writing XX to 0xFF46 and letting at least 160 machine cycles pass (in one batch) leaves
OAM[i] = what XX00+i read, for all 160 bytes, ends the transfer, and changes nothing outside OAM -/
theorem dma_copies_160 {s s0 : State} (wf : WF s) {page : Nat} (hp : page < 256) (hw : write s 0xff46 page = .ok s0)
    {c : Nat} (hc : 640 ≤ c) :
    ∃ s', runDma s0 c = .ok s' ∧ s'.dma = none ∧
      (∀ i, i < 160 → read s' (0xfe00 + i) = read s0 (page * 256 + i)) ∧
      (∀ a, a < 65536 → ¬ (0xfe00 ≤ a ∧ a < 0xfea0) → read s' a = read s0 a) := by
  have wf0 := wf_write wf hw
  rw [dma_restart] at hw; injection hw with hw
  have hd : s0.dma = some (page * 256, 0) := by rw [← hw]
  obtain ⟨o, _, hrun, hcopy, hframe⟩ := dma_batch wf0 hp hd (by omega) c
  rw [if_neg (by omega)] at hrun
  refine ⟨_, hrun, rfl, ?_, ?_⟩
  · intro i hi; exact hcopy i (by omega) (by omega)
  · intro a ha hout; exact hframe a ha (by omega)

/-- **frame**: a batch changes no state component except OAM and the DMA progress — cartridge registers, VRAM,
cartridge RAM, WRAM, HRAM, IE, every I/O register and the serial output are identical, for every source page -/
theorem dma_frame {s s' : State} (wf : WF s) (ok : DmaOk s) {c : Nat} (h : runDma s c = .ok s') :
    s' = { s with oam := s'.oam, dma := s'.dma } ∧ s'.oam.size = 160 := by
  cases hd : s.dma with
  | none => rw [runDma_none hd] at h; injection h with h; subst h; exact ⟨rfl, wf.oam⟩
  | some p =>
    obtain ⟨src, off⟩ := p
    obtain ⟨ho, page, hp, rfl⟩ := ok src off hd
    obtain ⟨o, hsz, hrun, _, _⟩ := dma_batch wf hp hd (by omega) c
    rw [hrun] at h; injection h with h; subst h; exact ⟨rfl, hsz⟩

/-- a finished (or never started) transfer does nothing: OAM stays as it is until 0xFF46 is written again -/
theorem dma_idle {s : State} (h : s.dma = none) (c : Nat) : runDma s c = .ok s := runDma_none h c

/-- **batch additivity**, stated for the model function exactly: a batch of `a` clocks followed by a batch of `b`
clocks is the batch of `a + b` clocks whenever `a` is a whole number of machine cycles (the model divides by 4,
as the code does) — for every state, including results that are panics -/
theorem dma_run_add (s : State) (a b : Nat) (ha : a % 4 = 0) :
    (runDma s a >>= fun s1 => runDma s1 b) = runDma s (a + b) := runDma_add s a b ha

/-- consecutive batches -/
def runBatches (s : State) : List Nat → Except Panic State
  | [] => .ok s
  | c :: cs => runDma s c >>= fun s1 => runBatches s1 cs

/-- **batch invariance**: any split of a stretch of time into batches of whole machine cycles gives the result of
the single batch -/
theorem dma_split_invariant (s : State) (c : Nat) (cs : List Nat) (h : ∀ x ∈ c :: cs, x % 4 = 0) :
    runBatches s (c :: cs) = runDma s (c :: cs).sum := by
  induction cs generalizing s c with
  | nil =>
    show (runDma s c >>= fun s1 => Except.ok s1) = runDma s (c + 0)
    cases runDma s c <;> rfl
  | cons d ds ih =>
    have hd : ∀ x ∈ d :: ds, x % 4 = 0 := fun x hx => h x (List.mem_cons_of_mem _ hx)
    show (runDma s c >>= fun s1 => runBatches s1 (d :: ds)) = runDma s (c + (d :: ds).sum)
    rw [← runDma_add s c _ (h c List.mem_cons_self)]
    cases runDma s c with
    | error e => rfl
    | ok s1 => exact ih s1 d hd

/-- two splits of the same stretch of time agree -/
theorem dma_partition_invariant (s : State) (c d : Nat) (cs ds : List Nat) (h1 : ∀ x ∈ c :: cs, x % 4 = 0)
    (h2 : ∀ x ∈ d :: ds, x % 4 = 0) (hs : (c :: cs).sum = (d :: ds).sum) :
    runBatches s (c :: cs) = runBatches s (d :: ds) := by
  rw [dma_split_invariant s c cs h1, dma_split_invariant s d ds h2, hs]

/-! ### the real catch-up: DMA interleaved with the devices

`runDma` above is the copy alone.  In `MemoryAreas::run_clock_cycles` the timer, the LCD and the joypad catch up after
every copied byte (since /repo 451a8b9), so that a source inside the I/O page (DIV, LY, STAT, IF …) is read at its own
machine cycle.  For that whole composition (`Sys.dev`, tied to the code by the c09 / c04 / c10 streams) the result is
independent of the batching as well — OAM, the other memory, the timer, the LCD position and frame count, IF: -/

open GbVerif.SysProofs in
/-- the invariants the theorem needs hold at power-on … -/
theorem sys_ok_create (k : Cart.Kind) (rb mb : Nat) (rom : Nat → Nat) :
    IoOk (create k rb mb rom).io ∧ SysProofs.DmaOk (create k rb mb rom) :=
  ⟨⟨by show (0 : Nat) < 65536; decide, by show (0 : Nat) < 65536; decide⟩, fun _ _ h => by cases h⟩

open GbVerif.SysProofs in
/-- … and are kept by every bus write and every catch-up: they hold in every reachable state -/
theorem sys_ok_write {s s' : State} {a v : Nat} (wf : WF s) (ha : a < 65536) (ok : IoOk s.io) (hd : SysProofs.DmaOk s)
    (h : write s a v = .ok s') : IoOk s'.io ∧ SysProofs.DmaOk s' := write_keeps ok hd h

open GbVerif.SysProofs in
theorem sys_ok_time {s s' : State} (wf : WF s) (ok : IoOk s.io) (hd : SysProofs.DmaOk s) {k : Nat} (hk : k % 4 = 0)
    (hb : k < 2 ^ 32 - 65536) (h : Sys.dev s k = .ok s') : WF s' ∧ IoOk s'.io ∧ SysProofs.DmaOk s' :=
  dev_keeps wf ok hd h

open GbVerif.SysProofs in
/-- **the transfer touches no other memory**, for the real catch-up: whatever amount of time passes, with or without a
transfer running, the cartridge registers, ROM, video RAM, cartridge RAM, work RAM and high RAM are exactly as before;
OAM changes only while a transfer is active (the I/O block and the DMA bookkeeping are what time is *for*) -/
theorem dev_touches_only_oam_io {s s' : State} (wf : WF s) (hd : SysProofs.DmaOk s) {k : Nat} (h : Sys.dev s k = .ok s') :
    s'.cart = s.cart ∧ s'.rom = s.rom ∧ s'.vram = s.vram ∧ s'.cram = s.cram ∧ s'.wram = s.wram ∧ s'.hram = s.hram ∧
    (s.dma = none → s'.oam = s.oam) := by
  obtain ⟨e, er, eo⟩ := dev_rest wf hd h
  simp only [rest, Prod.mk.injEq] at e
  exact ⟨e.1, er, e.2.2.1, e.2.2.2.1, e.2.2.2.2.1, e.2.2.2.2.2.1, eo⟩

open GbVerif.SysProofs in
/-- **whole-machine batch independence**: `a + b` clocks in one catch-up = `a` clocks, then `b` clocks, for every DMA
source page (the I/O page included), every progress, with or without a transfer running -/
theorem dev_batch_add {s : State} (wf : WF s) (ok : IoOk s.io) (hd : SysProofs.DmaOk s) (a b : Nat)
    (ha : a % 4 = 0) (hb : b % 4 = 0) (ha4 : 4 ≤ a) (hab : a + b < 2 ^ 32 - 65536) :
    Sys.dev s (a + b) = (Sys.dev s a).bind fun s1 => Sys.dev s1 b := dev_add wf ok hd a b ha hb ha4 hab

open GbVerif.SysProofs in
/-- … hence any partition of a stretch of time into batches of whole machine cycles -/
theorem dev_partition_invariant {s : State} (wf : WF s) (ok : IoOk s.io) (hd : SysProofs.DmaOk s) (ks : List Nat) (hne : ks ≠ [])
    (hks : ∀ k ∈ ks, k % 4 = 0 ∧ 4 ≤ k) (hsum : ks.sum < 2 ^ 32 - 65536) :
    devBatches ks s = Sys.dev s ks.sum := dev_partition ks wf ok hd hne hks hsum

/-! ### non-vacuity -/

/-- a concrete cartridge: MBC1, 4 ROM banks holding `i % 251`, 8 KiB RAM -/
def exState : State := create .mbc1 4 0x2000 (fun i => i % 251)

/-- the I/O page as source: 160 machine cycles in one batch, split 1 + 159 and split 80 + 80 copy the same bytes
(P1, SB, SC, the unmapped 0xFF03, then DIV as it stands in the fifth machine cycle …) -/
example : (write exState 0xff46 0xff >>= fun s => Sys.dev s 640 >>= fun s => pure (s.oam.toList.take 8)).toOption =
    some [63, 255, 255, 255, 0, 0, 0, 0] := by decide +kernel
example : (write exState 0xff46 0xff >>= fun s => Sys.dev s 4 >>= fun s => Sys.dev s 636 >>= fun s => pure (s.oam.toList.take 8)).toOption =
    some [63, 255, 255, 255, 0, 0, 0, 0] := by decide +kernel

example : WF exState ∧ DmaOk exState := ⟨wf_create _ _ _ _ (by decide), dmaok_create _ _ _ _⟩
/-- DMA from ROM page 0x41 (bank 1): after 8 clocks two bytes are in OAM, the third is not, the transfer is active -/
example : (write exState 0xff46 0x41 >>= fun s => runDma s 8 >>= fun s =>
    pure (s.oam[0]!, s.oam[1]!, s.oam[2]!, progress s)).toOption = some (0x4100 % 251, 0x4101 % 251, 0, 2) := by decide +kernel
/-- …and after 640 clocks it is finished, in one batch or in three -/
example : (write exState 0xff46 0x41 >>= fun s => runBatches s [640] >>= fun s => pure (s.oam[159]!, progress s)).toOption
    = some (0x419f % 251, 160) := by decide +kernel
example : (write exState 0xff46 0x41 >>= fun s => runBatches s [16, 620, 4] >>= fun s => pure (s.oam[159]!, progress s)).toOption
    = some (0x419f % 251, 160) := by decide +kernel
/-- a source byte changed between two batches is copied with its new value if its turn had not come yet -/
example : (write exState 0xff46 0xc0 >>= fun s => runDma s 8 >>= fun s => write s 0xc001 7 >>= fun s =>
    write s 0xc005 9 >>= fun s => runDma s 640 >>= fun s => pure (s.oam[1]!, s.oam[5]!)).toOption = some (0, 9) := by decide +kernel

end GbVerif.C16
