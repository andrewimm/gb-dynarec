import GbVerif.Proofs.X86Ip
import GbVerif.Proofs.X86Sp
import GbVerif.Proofs.X86Status
import GbVerif.Proofs.X86Writes
import GbVerif.Proofs.X86Safe
import GbVerif.Proofs.X86SimMoves
import GbVerif.Proofs.X86SimAlu3
import GbVerif.Proofs.X86SimCb
import GbVerif.Proofs.X86SimBit
import GbVerif.Proofs.X86SimAdc
import GbVerif.Proofs.X86SimFlagOps
import GbVerif.Proofs.X86SimMem
import GbVerif.Proofs.X86SimMemDec
import GbVerif.Proofs.X86SimMemImm
import GbVerif.Proofs.X86SimMemAlu
import GbVerif.Proofs.X86SimRotT
import GbVerif.Proofs.X86SimJump
import GbVerif.Proofs.X86SimMemAbs
import GbVerif.Proofs.X86SimRmw
import GbVerif.Proofs.X86SimBitHl
/-!
C01 — translated blocks have the same architectural effect as the interpreter.
First what can be read off a template as a token list (well-formedness, the bookkeeping of PC, SP, status and bus
writes on every path), then the same facts about runs of the x86 model (`Model/X86Sem.lean`), then the data side,
encoding by encoding; the proofs about the x86 model are in `Proofs/X86*.lean`.
-/
namespace GbVerif.C01

/-- the status byte as `Core::run_code_block` reads it: 4 and 5 both enable interrupts, anything unknown is "normal" -/
def statusClass (st : Nat) : Nat :=
  if st = 1 then 1 else if st = 2 then 2 else if st = 3 then 3 else if st = 4 ∨ st = 5 then 4 else 0

/-- RETI returns STATUS_INTERRUPT_ENABLE from translated code and STATUS_INTERRUPT_ENABLE_IMMEDIATE from the interpreter:
the same outcome for the block-stepped core -/
theorem reti_status_same_class : statusClass 4 = statusClass 5 := by decide

open GbVerif.Enum GbVerif.X86 GbVerif.X86Wf

/-- **emit_wf (unprefixed)**: for every defined unprefixed encoding the code produced by the real emitter (regenerated table)
decodes completely inside the modelled x86-64 subset; every `rel8` jump goes forward to an instruction boundary inside the
template or to its end; on every path pushes and pops balance, never pop below the entry depth, and `[rsp+d]` accesses stay
inside the slots the template itself pushed; `call rax` happens only with a bus-helper pointer in rax and the memory base in
rdi; rsp, rbp, r8–r11 are never written, r14 only by a status move or the zero-flag idiom; control never leaves the template
other than by falling off its end -/
theorem emit_wf_unprefixed : ∀ b0, b0 < 2^8 → ((Gen.emitOp b0).isEmpty || wfTemplate (Gen.emitOp b0)) = true :=
  forall_lt_of_allRange (fun b0 => (Gen.emitOp b0).isEmpty || wfTemplate (Gen.emitOp b0)) 8 (by decide +kernel)

/-- **emit_wf (CB page)** -/
theorem emit_wf_cb : ∀ b1, b1 < 2^8 → wfTemplate (Gen.emitCb b1) = true :=
  forall_lt_of_allRange (fun b1 => wfTemplate (Gen.emitCb b1)) 8 (by decide +kernel)

/-- **host_intact (static part)**: the entry stub saves rbx rbp r12–r15 (then the two arguments it needs later), the exit stub
pops the register-file pointer, restores exactly those six registers in reverse order and returns; the block tail pops the
exit stub's address and jumps to it -/
theorem host_frame_symmetric :
    (decodeCode Gen.emitPrologue).map pushes = some [3, 5, 12, 13, 14, 15, 7, 2] ∧
    (decodeCode Gen.emitEpilogue).map pops = some [7, 15, 14, 13, 12, 5, 3] ∧
    (decodeCode Gen.emitBlockEnd).map (fun c => c.map (·.2)) = some [.pop 7, .jmpReg 7] ∧
    ((decodeCode Gen.emitEpilogue).map fun c => c.getLast?.map (·.2)) = some (some .ret) := by
  decide +kernel

/-- for one unprefixed encoding that does not end its block: along every path through the emitted code, r13 (the guest
PC) is touched only by `add r13, imm8` and the immediates add up to the instruction's encoded length -/
def ipOkOp (b0 : Nat) : Bool :=
  let t := Gen.emitOp b0
  if t.isEmpty then true else
  let (op, len, _) := Gen.decode b0 0 0
  if Gen.isBlockEnd op then true else JitIp.jitIp t == some [len]

def ipOkCb (b1 : Nat) : Bool :=
  let (_, len, _) := Gen.decode 0xcb b1 0
  JitIp.jitIp (Gen.emitCb b1) == some [len]

/-- **ip_advance**: every translated instruction that does not end its block advances the guest PC by exactly its
encoded length, on every path through its code, and writes the PC register in no other way (all 501 encodings; the
tables are regenerated from the emitter and the decoder on every run) -/
theorem ip_advance_unprefixed : ∀ b0, b0 < 2^8 → ipOkOp b0 = true :=
  forall_lt_of_allRange ipOkOp 8 (by decide +kernel)

theorem ip_advance_cb : ∀ b1, b1 < 2^8 → ipOkCb b1 = true :=
  forall_lt_of_allRange ipOkCb 8 (by decide +kernel)

/-- non-vacuity: `LD A,n` is such an instruction and advances by 2; `JR NZ` ends its block and is exempt -/
example : Gen.isBlockEnd (Gen.decode 0x3e 0 0).1 = false ∧ JitIp.jitIp (Gen.emitOp 0x3e) = some [2] ∧
    Gen.isBlockEnd (Gen.decode 0x20 0 0).1 = true := by decide +kernel

/-- for one unprefixed encoding: the set of net changes (mod 2^16) of r12, the guest SP, over all paths through the
emitted code equals the set of changes the interpreter model makes to SP over both flag outcomes; the only encodings
whose code writes SP in a way the path analysis does not follow are the three that load it with a computed value
(LD SP,nn / ADD SP,e / LD SP,HL) -/
def spOkOp (b0 : Nat) : Bool :=
  let t := Gen.emitOp b0
  if t.isEmpty then true else
  let (op, len, _) := Gen.decode b0 0 0
  match JitSp.jitSp t with
  | some a => some a == JitSp.interpSp op len
  | none => b0 == 0x31 || b0 == 0xe8 || b0 == 0xf9

/-- **sp_delta**: PUSH, CALL (taken), RST move SP by −2, POP, RET (taken), RETI by +2, INC/DEC SP by ±1, not-taken CALL / RET
and every other instruction by 0 — in translated code on every path, exactly as in the interpreter, for every state
(the change does not depend on the state); r12 is written in no other way -/
theorem sp_delta_unprefixed : ∀ b0, b0 < 2^8 → spOkOp b0 = true :=
  forall_lt_of_allRange spOkOp 8 (by decide +kernel)

/-- no CB-prefixed instruction touches SP -/
theorem sp_delta_cb : ∀ b1, b1 < 2^8 → (JitSp.jitSp (Gen.emitCb b1) == some [0]) = true :=
  forall_lt_of_allRange (fun b1 => JitSp.jitSp (Gen.emitCb b1) == some [0]) 8 (by decide +kernel)

/-- non-vacuity: CALL NZ has the two outcomes 0 and −2, POP BC has +2 -/
example : JitSp.jitSp (Gen.emitOp 0xc4) = some [0, 65534] ∧ JitSp.jitSp (Gen.emitOp 0xc1) = some [2] := by decide +kernel

def statusOkOp (b0 : Nat) : Bool :=
  let t := Gen.emitOp b0
  if t.isEmpty then true else
  let (op, len, _) := Gen.decode b0 0 0
  (JitStatus.jitStatus t).isSome && JitStatus.jitStatus t == JitStatus.interpStatus op len

/-- **status_class**: over every path through the code of every instruction, the class of what the path leaves in the
status byte r14b (normal if it leaves it alone or writes it with the zero-flag idiom) is the class of the status the
interpreter model returns for that instruction: STOP, HALT, DI, EI/RETI set theirs, everything else — including every
instruction that merely precedes the terminator in a block — leaves a status of class normal -/
theorem status_class_unprefixed : ∀ b0, b0 < 2^8 → statusOkOp b0 = true :=
  forall_lt_of_allRange statusOkOp 8 (by decide +kernel)

theorem status_class_cb : ∀ b1, b1 < 2^8 → (JitStatus.jitStatus (Gen.emitCb b1) == some [0]) = true :=
  forall_lt_of_allRange (fun b1 => JitStatus.jitStatus (Gen.emitCb b1) == some [0]) 8 (by decide +kernel)

/-- non-vacuity: HALT returns class 2, RETI the EI class (the interpreter's 5 and the recompiler's 4 are one class), RLC B normal -/
example : JitStatus.jitStatus (Gen.emitOp 0x76) = some [2] ∧ JitStatus.jitStatus (Gen.emitOp 0xd9) = some [4] ∧
    JitStatus.interpStatus (Gen.decode 0xd9 0 0).1 1 = some [4] ∧ JitStatus.jitStatus (Gen.emitCb 0x00) = some [0] := by decide +kernel

def writesOkOp (b0 : Nat) : Bool :=
  let t := Gen.emitOp b0
  if t.isEmpty then true else
  let (op, len, _) := Gen.decode b0 0 0
  (JitWrites.jitWrites t).isSome && JitWrites.jitWrites t == JitWrites.interpWrites op len

def writesOkCb (b1 : Nat) : Bool :=
  let (op, len, _) := Gen.decode 0xcb b1 0
  (JitWrites.jitWrites (Gen.emitCb b1)).isSome && JitWrites.jitWrites (Gen.emitCb b1) == JitWrites.interpWrites op len

/-- **write_count**: over every path through the code of every instruction, translated code calls the bus helpers for
exactly as many byte writes (one per `memory_write_byte`, two per `memory_write_word` / `memory_push_word`) as the
interpreter model performs for that instruction and branch outcome — 0, 1 or 2; an instruction that must not write
(e.g. BIT n,(HL), CP (HL), a not-taken CALL) does not -/
theorem write_count_unprefixed : ∀ b0, b0 < 2^8 → writesOkOp b0 = true :=
  forall_lt_of_allRange writesOkOp 8 (by decide +kernel)

theorem write_count_cb : ∀ b1, b1 < 2^8 → writesOkCb b1 = true :=
  forall_lt_of_allRange writesOkCb 8 (by decide +kernel)

/-- non-vacuity: CALL NZ writes 0 or 2 bytes, BIT 0,(HL) none, RES 0,(HL) one, LD (nn),SP two -/
example : JitWrites.jitWrites (Gen.emitOp 0xc4) = some [0, 2] ∧ JitWrites.jitWrites (Gen.emitCb 0x46) = some [0] ∧
    JitWrites.jitWrites (Gen.emitCb 0x86) = some [1] ∧ JitWrites.jitWrites (Gen.emitOp 0x08) = some [2] := by decide +kernel


/-! The four bookkeeping facts as statements about runs.

Each analysis above is an instance of the generic path walk `JitPaths.paths`; `X86.paths_run` proves once, by
induction over the walk, that it covers every execution of the code on the x86 model (`Model/X86Sem.lean`) for any
relation the transfer function carries (`X86.paths_sound` is its half about complete runs), and
`Proofs/X86Ip/Sp/Status/Writes.lean` show that for each transfer function
(frame lemmas over every modelled instruction and the bus-call helper; the arithmetic of `add`/`sub`/16-bit `inc`/`dec`/
`and 0xffff`/`rol`/`ror` by 8; the symbolic host stack).  Instantiated at all 500 templates, whose byte offsets are
well-formed because the decoder produced them (`X86.decodeCode_codeOk`, for any token list that decodes; an analysis that
answers has decoded its template: `X86.analyse_wf` in `Proofs/X86Paths.lean`): from ANY machine state with 16 registers,
over ANY bus behaviour. -/

/-- a table check `(a.isSome && a == b) = true` says that both sides are the same answer -/
theorem isSome_beq_parts {a b : Option (List Nat)} (h : (a.isSome && a == b) = true) : ∃ C, a = some C ∧ b = some C := by
  cases a with
  | none => cases h
  | some C => exact ⟨C, rfl, (eq_of_beq (show (some C == b) = true from h)).symm⟩

/-- the analyses on the runs of a template `t` they answer on: an answer means `t` decodes, decoded code has well-formed
offsets (`analyse_wf`), and the soundness theorem of the analysis speaks about every run from offset 0 -/
theorem ip_runs {t : List Nat} {n : Nat} (hC : JitIp.jitIp t = some [n]) :
    ∃ code, decodeCode t = some code ∧
    ∀ (β : Type) (B : Interp.BusOps β) (fuel : Nat) (s s' : St β), s.r.size = 16 → s.pc = 0 →
      run B code (bytesOf t) fuel s = .ok s' → (get s' 13).toNat = ((get s 13).toNat + n) % 2 ^ 64 := by
  obtain ⟨code, hdec, hok, h0⟩ := analyse_wf hC
  refine ⟨code, hdec, fun β B fuel s s' hsz hpc hrun => ?_⟩
  obtain ⟨l, hl, he⟩ := jitIp_sound B _ code _ hdec hok hC fuel s s' hsz (hpc.trans h0.symm) hrun
  exact List.mem_singleton.mp hl ▸ he

theorem sp_runs {t C : List Nat} (hC : JitSp.jitSp t = some C) :
    ∃ code, decodeCode t = some code ∧
    ∀ (β : Type) (B : Interp.BusOps β) (fuel : Nat) (s s' : St β), s.r.size = 16 → s.pc = 0 →
      run B code (bytesOf t) fuel s = .ok s' → ∃ l ∈ C, (get s' 12).toNat % 65536 = ((get s 12).toNat + l) % 65536 := by
  obtain ⟨code, hdec, hok, h0⟩ := analyse_wf hC
  exact ⟨code, hdec, fun β B fuel s s' hsz hpc hrun => jitSp_sound B _ code C hdec hok hC fuel s s' hsz (hpc.trans h0.symm) hrun⟩

theorem status_runs {t C : List Nat} (hC : JitStatus.jitStatus t = some C) :
    ∃ code, decodeCode t = some code ∧
    ∀ (β : Type) (B : Interp.BusOps β) (fuel : Nat) (s s' : St β), s.r.size = 16 → s.pc = 0 →
      JitStatus.statusClass (r14b s) = 0 → run B code (bytesOf t) fuel s = .ok s' → JitStatus.statusClass (r14b s') ∈ C := by
  obtain ⟨code, hdec, hok, h0⟩ := analyse_wf hC
  exact ⟨code, hdec, fun β B fuel s s' hsz hpc hcl hrun =>
    jitStatus_sound B _ code C hdec hok hC fuel s s' hsz (hpc.trans h0.symm) hcl hrun⟩

theorem writes_runs {t C : List Nat} (hC : JitWrites.jitWrites t = some C) :
    ∃ code, decodeCode t = some code ∧
    ∀ (β : Type) (B : Interp.BusOps β) (fuel : Nat) (s s' : St (β × Nat)), s.r.size = 16 → s.pc = 0 →
      run (counted B) code (bytesOf t) fuel s = .ok s' → ∃ l ∈ C, s'.bus.2 = s.bus.2 + l := by
  obtain ⟨code, hdec, hok, h0⟩ := analyse_wf hC
  exact ⟨code, hdec, fun β B fuel s s' hsz hpc hrun => jitWrites_sound B _ code C hdec hok hC fuel s s' hsz (hpc.trans h0.symm) hrun⟩

/-- **ip_advance on executions**: every complete run of the template of an instruction that does not end its block
leaves r13 = r13 + encoded length (mod 2^64) -/
theorem ip_run_unprefixed (b0 : Nat) (hb : b0 < 2^8) (hne : (Gen.emitOp b0).isEmpty = false)
    (hend : Gen.isBlockEnd (Gen.decode b0 0 0).1 = false) :
    ∃ code, decodeCode (Gen.emitOp b0) = some code ∧
    ∀ (β : Type) (B : Interp.BusOps β) (fuel : Nat) (s s' : St β), s.r.size = 16 → s.pc = 0 →
      run B code (bytesOf (Gen.emitOp b0)) fuel s = .ok s' →
      (get s' 13).toNat = ((get s 13).toNat + (Gen.decode b0 0 0).2.1) % 2 ^ 64 := by
  have h := ip_advance_unprefixed b0 hb
  unfold ipOkOp at h
  simp only [hne, Bool.false_eq_true, if_false, hend] at h
  exact ip_runs (by simpa using h)

theorem ip_run_cb (b1 : Nat) (hb : b1 < 2^8) :
    ∃ code, decodeCode (Gen.emitCb b1) = some code ∧
    ∀ (β : Type) (B : Interp.BusOps β) (fuel : Nat) (s s' : St β), s.r.size = 16 → s.pc = 0 →
      run B code (bytesOf (Gen.emitCb b1)) fuel s = .ok s' →
      (get s' 13).toNat = ((get s 13).toNat + (Gen.decode 0xcb b1 0).2.1) % 2 ^ 64 := by
  have h := ip_advance_cb b1 hb
  unfold ipOkCb at h
  exact ip_runs (by simpa using h)

/-- **sp_delta on executions**: every complete run of the template of any instruction but the three that load SP with a
computed value changes the low 16 bits of r12 by one of the changes the interpreter model makes to SP -/
theorem sp_run_unprefixed (b0 : Nat) (hb : b0 < 2^8) (hne : (Gen.emitOp b0).isEmpty = false)
    (hnot : (b0 == 0x31 || b0 == 0xe8 || b0 == 0xf9) = false) :
    ∃ code C, decodeCode (Gen.emitOp b0) = some code ∧ JitSp.interpSp (Gen.decode b0 0 0).1 (Gen.decode b0 0 0).2.1 = some C ∧
    ∀ (β : Type) (B : Interp.BusOps β) (fuel : Nat) (s s' : St β), s.r.size = 16 → s.pc = 0 →
      run B code (bytesOf (Gen.emitOp b0)) fuel s = .ok s' →
      ∃ l ∈ C, (get s' 12).toNat % 65536 = ((get s 12).toNat + l) % 65536 := by
  have h := sp_delta_unprefixed b0 hb
  unfold spOkOp at h
  simp only [hne, Bool.false_eq_true, if_false] at h
  split at h
  · next C hj =>
    obtain ⟨code, hdec, hruns⟩ := sp_runs hj
    exact ⟨code, C, hdec, (eq_of_beq h).symm, hruns⟩
  · rw [hnot] at h; cases h

theorem sp_run_cb (b1 : Nat) (hb : b1 < 2^8) :
    ∃ code, decodeCode (Gen.emitCb b1) = some code ∧
    ∀ (β : Type) (B : Interp.BusOps β) (fuel : Nat) (s s' : St β), s.r.size = 16 → s.pc = 0 →
      run B code (bytesOf (Gen.emitCb b1)) fuel s = .ok s' →
      (get s' 12).toNat % 65536 = (get s 12).toNat % 65536 := by
  obtain ⟨code, hdec, hruns⟩ := sp_runs (by simpa using sp_delta_cb b1 hb : JitSp.jitSp (Gen.emitCb b1) = some [0])
  refine ⟨code, hdec, fun β B fuel s s' hsz hpc hrun => ?_⟩
  obtain ⟨l, hl, he⟩ := hruns β B fuel s s' hsz hpc hrun
  rw [List.mem_singleton.mp hl, Nat.add_zero] at he
  exact he

/-- **status_class on executions**: from a state whose status byte is of class normal (a block starts with r14 = 0),
every complete run of the template leaves in r14b a status of a class the interpreter model returns for it -/
theorem status_run_unprefixed (b0 : Nat) (hb : b0 < 2^8) (hne : (Gen.emitOp b0).isEmpty = false) :
    ∃ code C, decodeCode (Gen.emitOp b0) = some code ∧ JitStatus.interpStatus (Gen.decode b0 0 0).1 (Gen.decode b0 0 0).2.1 = some C ∧
    ∀ (β : Type) (B : Interp.BusOps β) (fuel : Nat) (s s' : St β), s.r.size = 16 → s.pc = 0 →
      JitStatus.statusClass (r14b s) = 0 → run B code (bytesOf (Gen.emitOp b0)) fuel s = .ok s' →
      JitStatus.statusClass (r14b s') ∈ C := by
  have h := status_class_unprefixed b0 hb
  unfold statusOkOp at h
  simp only [hne, Bool.false_eq_true, if_false] at h
  obtain ⟨C, hj, hi⟩ := isSome_beq_parts h
  obtain ⟨code, hdec, hruns⟩ := status_runs hj
  exact ⟨code, C, hdec, hi, hruns⟩

theorem status_run_cb (b1 : Nat) (hb : b1 < 2^8) :
    ∃ code, decodeCode (Gen.emitCb b1) = some code ∧
    ∀ (β : Type) (B : Interp.BusOps β) (fuel : Nat) (s s' : St β), s.r.size = 16 → s.pc = 0 →
      JitStatus.statusClass (r14b s) = 0 → run B code (bytesOf (Gen.emitCb b1)) fuel s = .ok s' →
      JitStatus.statusClass (r14b s') = 0 := by
  obtain ⟨code, hdec, hruns⟩ :=
    status_runs (by simpa using status_class_cb b1 hb : JitStatus.jitStatus (Gen.emitCb b1) = some [0])
  exact ⟨code, hdec, fun β B fuel s s' hsz hpc hcl hrun => List.mem_singleton.mp (hruns β B fuel s s' hsz hpc hcl hrun)⟩

/-- **write_count on executions**: over any bus with a counter of its byte writes, every complete run of the template
performs one of the numbers of byte writes the interpreter model performs for that instruction -/
theorem writes_run_unprefixed (b0 : Nat) (hb : b0 < 2^8) (hne : (Gen.emitOp b0).isEmpty = false) :
    ∃ code C, decodeCode (Gen.emitOp b0) = some code ∧ JitWrites.interpWrites (Gen.decode b0 0 0).1 (Gen.decode b0 0 0).2.1 = some C ∧
    ∀ (β : Type) (B : Interp.BusOps β) (fuel : Nat) (s s' : St (β × Nat)), s.r.size = 16 → s.pc = 0 →
      run (counted B) code (bytesOf (Gen.emitOp b0)) fuel s = .ok s' →
      ∃ l ∈ C, s'.bus.2 = s.bus.2 + l := by
  have h := write_count_unprefixed b0 hb
  unfold writesOkOp at h
  simp only [hne, Bool.false_eq_true, if_false] at h
  obtain ⟨C, hj, hi⟩ := isSome_beq_parts h
  obtain ⟨code, hdec, hruns⟩ := writes_runs hj
  exact ⟨code, C, hdec, hi, hruns⟩

theorem writes_run_cb (b1 : Nat) (hb : b1 < 2^8) :
    ∃ code C, decodeCode (Gen.emitCb b1) = some code ∧ JitWrites.interpWrites (Gen.decode 0xcb b1 0).1 (Gen.decode 0xcb b1 0).2.1 = some C ∧
    ∀ (β : Type) (B : Interp.BusOps β) (fuel : Nat) (s s' : St (β × Nat)), s.r.size = 16 → s.pc = 0 →
      run (counted B) code (bytesOf (Gen.emitCb b1)) fuel s = .ok s' →
      ∃ l ∈ C, s'.bus.2 = s.bus.2 + l := by
  obtain ⟨C, hj, hi⟩ := isSome_beq_parts (write_count_cb b1 hb)
  obtain ⟨code, hdec, hruns⟩ := writes_runs hj
  exact ⟨code, C, hdec, hi, hruns⟩

/-- the host discipline of `X86Wf.absStep` (plus: no `[rsp+d]` access straddles two slots) holds on every path of every
template and every path ends with a balanced stack — by the walk `JitPaths.paths` of the four bookkeeping analyses -/
theorem host_discipline_unprefixed : ∀ b0, b0 < 2^8 → ((Gen.emitOp b0).isEmpty || JitHost.hostOk (Gen.emitOp b0) == some [0]) = true :=
  forall_lt_of_allRange (fun b0 => (Gen.emitOp b0).isEmpty || JitHost.hostOk (Gen.emitOp b0) == some [0]) 8 (by decide +kernel)

theorem host_discipline_cb : ∀ b1, b1 < 2^8 → (JitHost.hostOk (Gen.emitCb b1) == some [0]) = true :=
  forall_lt_of_allRange (fun b1 => JitHost.hostOk (Gen.emitCb b1) == some [0]) 8 (by decide +kernel)

/-- what holds of every run of the template `t` on the x86 model, from any state with 16 registers at pc 0 over any bus:
a complete run hands back the host stack exactly as it found it (same slots, same contents) and rbp untouched, and a run
with more fuel than the template has instructions never stops for any reason but the panic of a bus access — it never
pops below its frame, touches a stack slot it did not push, calls through anything but the five bus helpers with the
memory base in rdi, lands between two instructions, leaves the template, or loops -/
def HostIntact (t : List Nat) : Prop :=
  ∃ code, decodeCode t = some code ∧
    ∀ (β : Type) (B : Interp.BusOps β) (fuel : Nat) (s : St β), s.r.size = 16 → s.pc = 0 →
      (∀ s', run B code (bytesOf t) fuel s = .ok s' → s'.stack = s.stack ∧ get s' 5 = get s 5) ∧
      (∀ e, code.length < fuel → run B code (bytesOf t) fuel s = .error e → isBus e)

theorem hostIntact_of (t : List Nat) (hh : (JitHost.hostOk t == some [0]) = true) : HostIntact t := by
  have hC : JitHost.hostOk t = some [0] := eq_of_beq hh
  obtain ⟨code, hdec, hok, h0⟩ := analyse_wf hC
  refine ⟨code, hdec, fun β B fuel s hsz hpc => ?_⟩
  exact ⟨fun s' hrun => hostOk_sound B t code _ hdec hok hC fuel s s' hsz (hpc.trans h0.symm) hrun,
         fun e hf hrun => hostOk_safe B t code _ hdec hok hC fuel s e hsz (hpc.trans h0.symm) hf hrun⟩

/-- **host_intact on executions** (all 244 unprefixed templates) -/
theorem host_intact_run_unprefixed (b0 : Nat) (hb : b0 < 2^8) (hne : (Gen.emitOp b0).isEmpty = false) :
    HostIntact (Gen.emitOp b0) := by
  have h := host_discipline_unprefixed b0 hb
  rw [hne, Bool.false_or] at h
  exact hostIntact_of _ h

/-- **host_intact on executions** (all 256 CB-prefixed templates) -/
theorem host_intact_run_cb (b1 : Nat) (hb : b1 < 2^8) : HostIntact (Gen.emitCb b1) :=
  hostIntact_of _ (host_discipline_cb b1 hb)

/-- non-vacuity of the fault clause: on a bus whose writes panic, PUSH BC does stop — with the bus panic, nothing else -/
def panicBus : Interp.BusOps Unit := ⟨fun _ _ => .ok 0, fun _ _ _ => .error (.overflow "test")⟩
example : (match decodeCode (Gen.emitOp 0xc5) with
    | some code => (match run panicBus code (bytesOf (Gen.emitOp 0xc5)) 400
          { r := #[0,0,0x1234,0,0,0,0,ptrVal 512,0,0,0,0,0xc000,0x150,0,7], bus := (), stack := [1,2] } with
        | .error (.bus _) => true
        | _ => false)
    | none => false) = true := by decide +kernel


/-! The data side: translated code computes what the interpreter computes.

`X86.Simulates b0 b1 b2`: from ANY host state related by `X86.Sim` to a guest register file `g` (guest registers in the low
16 bits of rax rcx rdx rbx r12 r13 r15; everything else arbitrary), over any bus, every complete run of the template of the
encoding `b0` with operand bytes `b1 b2` ends in a host state related to the register file `Interp.runOp` produces from
`g` (cycles included), with the bus, the host stack and the status byte untouched.  The other predicates vary this one:
`Cb` is the CB page; `Mem` lets the instruction use the bus (reads returning bytes): the interpreter, run on the bus the
host state carries, succeeds and both end with the same bus; `F` restricts `g` to register files whose F has a clear low
nibble; `S` lets the template leave 0 or 0x80 (class normal) in the status byte (`SimulatesCbF` does so too).

The `simulation_*_partial` theorems below prove, of the 501 encodings, 452:
- `Simulates` (139): LD r,r' / LD r,n / LD rr,nn / INC rr / DEC rr / LD SP,HL / NOP (70); ADD / SUB / AND / XOR / OR / CP
  with a register or immediate operand (48); INC r / DEC r / SCF / CCF / CPL (17); RLCA / RRCA (2); JP nn / JP HL (2);
- `SimulatesF` (18): ADC / SBC with a register or immediate operand (16); RLA / RRA (2);
- `SimulatesCb` (140): RES / SET b,r (112); SLA / SRA / SRL / SWAP r (28);
- `SimulatesCbS` (14): RLC / RRC r;  `SimulatesCbF` (70): BIT b,r (56); RL / RR r (14);
- `SimulatesMem` (37): LD r,(HL) / LD (HL),r (14); LD A,(BC) / (DE) / (HL+) / (HL-) and LD (BC) / (DE) / (HL+) / (HL-),A (8);
  LD (HL),n (1); ADD / SUB / AND / XOR / OR / CP (HL) (6); LDH (n),A / LDH A,(n) / LD (nn),A / LD A,(nn) / LD (C),A /
  LD A,(C) (6); INC / DEC (HL) (2);  `SimulatesMemF` (2): ADC / SBC A,(HL);
- `SimulatesCbMem` (20): RES / SET b,(HL) (16); SLA / SRA / SRL / SWAP (HL) (4);  `SimulatesCbMemS` (2): RLC / RRC (HL);
  `SimulatesCbMemSF` (10): BIT b,(HL) (8); RL / RR (HL) (2).
NOT proved (49): PUSH / POP (8), ADD HL,rr (4), ADD SP,e / LD HL,SP+e / LD (nn),SP (3), DAA, JR and the conditional jumps
JR cc / JP cc (9), CALL / CALL cc / RET / RET cc / RETI / RST (19), HALT / STOP / DI / EI (4), and the 0xCB prefix byte, which
has no template of its own; for these the per-state claim rests on the native differential and the exhaustive `c01.grid`.
`RegisterSimulation` (`Simulates` for every encoding that has a template) is not proved. -/

/-- `Simulates` for every encoding that has a template: the full statement for those that touch no memory (not proved; an
encoding that uses the bus needs `SimulatesMem`) -/
def RegisterSimulation : Prop :=
  ∀ b0 b1 b2, b0 < 256 → b1 < 256 → b2 < 256 → (Gen.emitOp b0).isEmpty = false → Simulates b0 b1 b2

/-- **simulation_partial**: LD r,r' (49), LD r,n (7, every operand), LD rr,nn (4, every operand), INC rr / DEC rr (8),
LD SP,HL and NOP — for all states -/
theorem simulation_partial :
    (∀ d s b1 b2, Simulates (opcodeLd8 d s) b1 b2) ∧
    (∀ r b1 b2, b1 < 256 → Simulates (opcodeLdI r) b1 b2) ∧
    (∀ p b1 b2, Simulates (opcodeLd16 p) b1 b2) ∧
    (∀ p b1 b2, Simulates (opcodeInc16 p) b1 b2 ∧ Simulates (opcodeDec16 p) b1 b2) ∧
    (∀ b1 b2, Simulates 0xf9 b1 b2) ∧ (∀ b1 b2, Simulates 0x00 b1 b2) :=
  ⟨sim_ld8, sim_ldi, sim_ld16, fun p b1 b2 => ⟨sim_incdec16 p false b1 b2, sim_incdec16 p true b1 b2⟩, sim_ld_sp_hl, sim_nop⟩


/-- **simulation_alu_partial**: ADD / SUB / AND / XOR / OR A,r and CP r for the seven registers, and their immediate
forms for every operand byte — result AND flags (Z N H C as the interpreter computes them, the low nibble of F kept) —
for all states.  The flags go through the host: `op ah, src` sets RFLAGS, nine instructions move ZF / AF / CF into the
guest's F layout (`X86.flag_pipe`), one or two more fix N and H -/
theorem simulation_alu_partial :
    (∀ r b1 b2, Simulates (opcodeAdd r) b1 b2 ∧ Simulates (opcodeSub r) b1 b2 ∧ Simulates (opcodeAnd r) b1 b2 ∧
      Simulates (opcodeXor r) b1 b2 ∧ Simulates (opcodeOr r) b1 b2 ∧ Simulates (opcodeCp r) b1 b2) ∧
    (∀ b1 b2, b1 < 256 → Simulates 0xc6 b1 b2 ∧ Simulates 0xd6 b1 b2 ∧ Simulates 0xe6 b1 b2 ∧ Simulates 0xee b1 b2 ∧
      Simulates 0xf6 b1 b2 ∧ Simulates 0xfe b1 b2) :=
  ⟨fun r b1 b2 => ⟨sim_add r b1 b2, sim_sub r b1 b2, sim_and r b1 b2, sim_xor r b1 b2, sim_or r b1 b2, sim_cp r b1 b2⟩,
   fun b1 b2 hb => ⟨sim_c6 b1 b2 hb, sim_d6 b1 b2 hb, sim_e6 b1 b2 hb, sim_ee b1 b2 hb, sim_f6 b1 b2 hb, sim_fe b1 b2 hb⟩⟩

/-- ADD A,B = 0x80, SUB L = 0x95, XOR A = 0xAF, CP E = 0xBB -/
example : opcodeAdd .B = 0x80 ∧ opcodeSub .L = 0x95 ∧ opcodeXor .A = 0xaf ∧ opcodeCp .E = 0xbb := by decide


/-- **simulation_cb_partial**: RES b,r and SET b,r for the eight bits and the seven registers (112 encodings of the CB
page) — for all states -/
theorem simulation_cb_partial : ∀ (b : Fin 8) (r : Reg8) (b2 : Nat), SimulatesCb (opcodeRes b r) b2 ∧ SimulatesCb (opcodeSet b r) b2 :=
  fun b r b2 => ⟨sim_res b r b2, sim_set b r b2⟩

/-- RES 0,B = CB 80, SET 7,A = CB FF, and the masks are the bit's -/
example : opcodeRes 0 .B = 0x80 ∧ opcodeSet 7 .A = 0xff ∧ bitMask 3 = 8 := by decide


/-- **simulation_bit_partial**: BIT b,r for the eight bits and the seven registers (56 encodings) — for all states whose F
has a clear low nibble (the template clears that nibble, the interpreter keeps it; no reachable register file has it
set: POP AF masks it, every flag-writing instruction clears or copies it); the template's scratch use of the status byte
leaves 0 or 0x80 there -/
theorem simulation_bit_partial : ∀ (b : Fin 8) (r : Reg8) (b2 : Nat), SimulatesCbF (opcodeBit b r) b2 := sim_bit

example : opcodeBit 7 .H = 0x7c := by decide


/-- **simulation_carry_partial**: ADC A,r / SBC A,r for the seven registers and ADC A,n / SBC A,n for every operand byte
(16 encodings) — result and flags, with the guest's carry carried into the host's CF by `and al,0x10 ; add al,0xf0` —
for all states whose F has a clear low nibble -/
theorem simulation_carry_partial :
    (∀ r b1 b2, SimulatesF (opcodeAdc r) b1 b2 ∧ SimulatesF (opcodeSbc r) b1 b2) ∧
    (∀ b1 b2, b1 < 256 → SimulatesF 0xce b1 b2 ∧ SimulatesF 0xde b1 b2) :=
  ⟨fun r b1 b2 => ⟨sim_adc r b1 b2, sim_sbc r b1 b2⟩, fun b1 b2 hb => ⟨sim_ce b1 b2 hb, sim_de b1 b2 hb⟩⟩

example : opcodeAdc .C = 0x89 ∧ opcodeSbc .A = 0x9f := by decide


/-- **simulation_inc_partial**: INC r / DEC r for the seven registers (register write, then Z N H from the host's ZF / AF
with the guest's C kept) and SCF / CCF / CPL — 17 encodings, for all states -/
theorem simulation_inc_partial :
    (∀ r b1 b2, Simulates (opcodeInc8 r) b1 b2 ∧ Simulates (opcodeDec8 r) b1 b2) ∧
    (∀ b1 b2, Simulates 0x37 b1 b2 ∧ Simulates 0x3f b1 b2 ∧ Simulates 0x2f b1 b2) :=
  ⟨fun r b1 b2 => ⟨sim_inc8 r b1 b2, sim_dec8 r b1 b2⟩, fun b1 b2 => ⟨sim_scf b1 b2, sim_ccf b1 b2, sim_cpl b1 b2⟩⟩

example : opcodeInc8 .A = 0x3c ∧ opcodeDec8 .B = 0x05 := by decide


/-- **simulation_mem_partial** (the bus side): LD r,(HL) and LD (HL),r for the seven registers (14 encodings), for all states
and any bus (reads returning bytes): the template saves the caller-saved guest registers on the host stack, calls
`memory_read_byte` / `memory_write_byte` with the address in rsi and the memory base in rdi, (for a load) pokes the result
into the stack slot of the saved register, and pops them back; the interpreter, run on the bus the host state carries,
performs the SAME access — same address, same byte — and both end with the same bus, related register files, the host
stack and the status byte as they were -/
theorem simulation_mem_partial : ∀ (r : Reg8) (b1 b2 : Nat), SimulatesMem (opcodeLdHl r) b1 b2 ∧ SimulatesMem (opcodeStHl r) b1 b2 :=
  fun r b1 b2 => ⟨sim_ldhl r b1 b2, sim_sthl r b1 b2⟩

/-- **simulation_mem_a_partial**: the accumulator loads and stores through BC, DE and the auto-incrementing HL, LD A,(BC) / (DE) /
(HL+) / (HL-) and LD (BC),A / (DE),A / (HL+),A (7 encodings), for all states and any bus: the same access as the interpreter, and
HL moves as in the interpreter -/
theorem simulation_mem_a_partial (b1 b2 : Nat) :
    SimulatesMem 0x0a b1 b2 ∧ SimulatesMem 0x1a b1 b2 ∧ SimulatesMem 0x2a b1 b2 ∧ SimulatesMem 0x3a b1 b2 ∧
    SimulatesMem 0x02 b1 b2 ∧ SimulatesMem 0x12 b1 b2 ∧ SimulatesMem 0x22 b1 b2 :=
  ⟨sim_0a b1 b2, sim_1a b1 b2, sim_ldi_ldd false b1 b2, sim_ldi_ldd true b1 b2, sim_st_a false b1 b2, sim_st_a true b1 b2, sim_sti b1 b2⟩

/-- **simulation_mem_dec_partial**: LD (HL-),A (0x32), the decrementing twin of LD (HL+),A — the same bus write as the interpreter (address
HL, byte A), then HL one lower modulo 2^16 exactly as the interpreter's `(hl + 0xffffffff) & 0xffff`; host stack and status byte untouched
(`Proofs/X86SimMem.lean`: the host's 16-bit `dec` and the interpreter's 32-bit form agree modulo 2^16, `X86.hl_bump`, and `Sim`
looks at residues only, `X86.sim_hl_congr`, so the two spellings of the new HL are never compared as terms, which would send Lean into
`Nat.add _ 4294967295`). -/
theorem simulation_mem_dec_partial (b1 b2 : Nat) : SimulatesMem 0x32 b1 b2 := sim_std b1 b2

/-- **simulation_mem_imm_partial**: LD (HL),n (0x36) for every operand byte — the template's helper call writes the operand byte (read
from the instruction stream, the state's `op1`) at HL, exactly the interpreter's bus write; registers, host stack and status byte untouched
(`Proofs/X86SimMemImm.lean`: `sti_body`, the store body with an immediate source). -/
theorem simulation_mem_imm_partial (b1 b2 : Nat) (h : b1 < 256) : SimulatesMem 0x36 b1 b2 := sim_sthli b1 b2 h

example : opcodeLdHl .A = 0x7e ∧ opcodeStHl .B = 0x70 := by decide


/-- **simulation_mem_alu_partial**: ADD / SUB / AND / XOR / OR A,(HL) and CP (HL) for all states, ADC / SBC A,(HL) for all states
whose F has a clear low nibble (8 encodings): the template reads the byte into dl with DE saved on the host stack, runs the
register form of the operation (the same body lemmas as `simulation_alu_partial`) and pops DE back; the interpreter
performs the same read -/
theorem simulation_mem_alu_partial (b1 b2 : Nat) :
    SimulatesMem 0x86 b1 b2 ∧ SimulatesMem 0x96 b1 b2 ∧ SimulatesMem 0xa6 b1 b2 ∧ SimulatesMem 0xae b1 b2 ∧ SimulatesMem 0xb6 b1 b2 ∧
    SimulatesMem 0xbe b1 b2 ∧ SimulatesMemF 0x8e b1 b2 ∧ SimulatesMemF 0x9e b1 b2 :=
  ⟨sim_86 b1 b2, sim_96 b1 b2, sim_a6 b1 b2, sim_ae b1 b2, sim_b6 b1 b2, sim_be b1 b2, sim_8e b1 b2, sim_9e b1 b2⟩

/-- **simulation_shift_partial**: SLA r / SRA r / SRL r and SWAP r for the seven registers (28 encodings of the CB page) —
the register write (`shl|sar|shr r8,1`, `rol r8,4`), then Z and C (Z only for SWAP) from the host's flags with F's low
nibble kept — for all states -/
theorem simulation_shift_partial : ∀ (r : Reg8) (b2 : Nat),
    (∀ k : Sh3, SimulatesCb (opcodeSh k r) b2) ∧ SimulatesCb (opcodeSwap r) b2 :=
  fun r b2 => ⟨fun k => sim_sh k r b2, sim_swap r b2⟩

/-- SLA B = CB 20, SRA A = CB 2F, SRL L = CB 3D, SWAP E = CB 33 -/
example : opcodeSh .sla .B = 0x20 ∧ opcodeSh .sra .A = 0x2f ∧ opcodeSh .srl .L = 0x3d ∧ opcodeSwap .E = 0x33 := by decide


/-- **simulation_rot_partial**: the rotates. RLCA / RRCA for all states; RLC r / RRC r for the seven registers for all states
(the template computes Z through `or r8,r8 ; sete r14b ; ror r14b,1 ; or al,r14b` and leaves 0 or 0x80 in the status byte,
class normal: `SimulatesCbS`); RLA / RRA and RL r / RR r for all states whose F has a clear low nibble (the guest's C is
moved into the host's CF by `and al,0x10 ; add al,0xf0`, which destroys F; the interpreter keeps F's low nibble) —
32 encodings -/
theorem simulation_rot_partial :
    (∀ (k : Rc2) b1 b2, Simulates (opcodeRcA k) b1 b2) ∧ (∀ (k : Rc2) r b2, SimulatesCbS (opcodeRc k r) b2) ∧
    (∀ (k : Rt2) b1 b2, SimulatesF (opcodeRtA k) b1 b2) ∧ (∀ (k : Rt2) r b2, SimulatesCbF (opcodeRt k r) b2) :=
  ⟨fun k b1 b2 => sim_rca k b1 b2, fun k r b2 => sim_rc k r b2, fun k b1 b2 => sim_rta k b1 b2, fun k r b2 => sim_rt k r b2⟩

/-- RLCA = 07, RRCA = 0F, RLA = 17, RRA = 1F; RLC B = CB 00, RRC A = CB 0F, RL C = CB 11, RR A = CB 1F -/
example : opcodeRcA .rlc = 0x07 ∧ opcodeRcA .rrc = 0x0f ∧ opcodeRtA .rl = 0x17 ∧ opcodeRtA .rr = 0x1f ∧
    opcodeRc .rlc .B = 0x00 ∧ opcodeRc .rrc .A = 0x0f ∧ opcodeRt .rl .C = 0x11 ∧ opcodeRt .rr .A = 0x1f := by decide

/-- **simulation_jump_partial**: the first block terminators — JP nn for every operand and JP HL, for all states: the template
loads the guest PC (`mov r13w, imm16` / `mov r13w, cx`) and charges the cycles; the interpreter sets `ip` to the same value -/
theorem simulation_jump_partial (b1 b2 : Nat) : Simulates 0xc3 b1 b2 ∧ Simulates 0xe9 b1 b2 :=
  ⟨sim_jp b1 b2, sim_jphl b1 b2⟩


/-- **simulation_mem_abs_partial** (the bus side, addresses that are not a register pair): LDH (n),A / LDH A,(n) for every
operand byte, LD (nn),A / LD A,(nn) for every operand, LD (C),A / LD A,(C) — 6 encodings, for all states and any bus: the
address is computed into rsi (`mov si, imm16` or `mov si, bx ; or si, 0xff00`), the helper is called with the registers
saved on the host stack, a load pokes the byte into the saved A; the interpreter performs the same access -/
theorem simulation_mem_abs_partial (b1 b2 : Nat) (h1 : b1 < 256) (h2 : b2 < 256) :
    SimulatesMem 0xe0 b1 b2 ∧ SimulatesMem 0xf0 b1 b2 ∧ SimulatesMem 0xea b1 b2 ∧ SimulatesMem 0xfa b1 b2 ∧
    SimulatesMem 0xe2 b1 b2 ∧ SimulatesMem 0xf2 b1 b2 :=
  ⟨sim_e0 b1 b2 h1, sim_f0 b1 b2 h1, sim_ea b1 b2 h1 h2, sim_fa b1 b2 h1 h2, sim_e2 b1 b2, sim_f2 b1 b2⟩

/-- **simulation_rmw_partial** (the bus side, read-modify-write on (HL)): RES b,(HL) and SET b,(HL) for the eight bits, SLA / SRA /
SRL / SWAP (HL), INC (HL) and DEC (HL), RLC (HL) and RRC (HL) (these two leave 0 or 0x80 in the status byte) — 24 encodings, for all
states and any bus. ONE wrapper (`X86.rmw_wrap`) covers them all: the
template reads (HL) into dl with rax rcx rdx on the host stack, reloads AF into ax, runs the REGISTER form of the operation on
dl (= the host location of E, so the body lemmas of `simulation_cb_partial` / `_shift_partial` / `_inc_partial` apply to a
register file whose E is the byte read), stores al into the saved F, reloads the address from the saved rcx, writes dl back and
pops; the interpreter's `rmwHL` with the (HL) form of the operation reads the same byte, writes the same byte to the same
address and ends in a related register file -/
theorem simulation_rmw_partial (b1 b2 : Nat) :
    (∀ b : Fin 8, SimulatesCbMem (opcodeResHl b) b2 ∧ SimulatesCbMem (opcodeSetHl b) b2) ∧
    (∀ k : Sh3, SimulatesCbMem (opcodeShHl k) b2) ∧ SimulatesCbMem 0x36 b2 ∧ SimulatesMem 0x34 b1 b2 ∧ SimulatesMem 0x35 b1 b2 ∧
    (∀ k : Rc2, SimulatesCbMemS (opcodeRcHl k) b2) :=
  ⟨fun b => ⟨sim_reshl b b2, sim_sethl b b2⟩, fun k => sim_shhl k b2, sim_swaphl b2, sim_inchl b1 b2, sim_dechl b1 b2, fun k => sim_rchl k b2⟩

/-- RES 0,(HL) = CB 86, SET 7,(HL) = CB FE, SLA (HL) = CB 26, SRA (HL) = CB 2E, SRL (HL) = CB 3E -/
example : opcodeResHl 0 = 0x86 ∧ opcodeSetHl 7 = 0xfe ∧ opcodeShHl .sla = 0x26 ∧ opcodeShHl .sra = 0x2e ∧ opcodeShHl .srl = 0x3e ∧
    opcodeRcHl .rlc = 0x06 ∧ opcodeRcHl .rrc = 0x0e := by decide

/-- **simulation_bithl_partial**: BIT b,(HL) for the eight bits, for all states whose F has a clear low nibble and any bus: the
read-only sibling of the wrapper (`X86.rmr_wrap`: read (HL) into dl, reload AF, run the register form of BIT on dl with r14b as
scratch, store al into the saved F, pop — no write-back); the bus is unchanged, the status byte is left at 0 or 0x80 -/
theorem simulation_bithl_partial (b2 : Nat) : ∀ b : Fin 8, SimulatesCbMemSF (opcodeBitHl b) b2 := fun b => sim_bithl b b2

example : opcodeBitHl 0 = 0x46 ∧ opcodeBitHl 7 = 0x7e := by decide

/-- **simulation_rthl_partial**: RL (HL) and RR (HL), for all states whose F has a clear low nibble and any bus: the wrapper of
`simulation_rmw_partial` around the register form of RL / RR at the template's offsets (`X86.rt_body_at`: carry preamble, rotate
through carry, flag conversion, Z tail); the status byte is left at 0 or 0x80 -/
theorem simulation_rthl_partial (b2 : Nat) : ∀ k : Rt2, SimulatesCbMemSF (opcodeRtHl k) b2 := fun k => sim_rthl k b2

example : opcodeRtHl .rl = 0x16 ∧ opcodeRtHl .rr = 0x1e := by decide

/-- the opcodes covered are the SM83's: LD B,C = 0x41, LD A,n = 0x3E, LD SP,nn = 0x31, DEC HL = 0x2B -/
example : opcodeLd8 .B .C = 0x41 ∧ opcodeLdI .A = 0x3e ∧ opcodeLd16 .SP = 0x31 ∧ opcodeDec16 .HL = 0x2b := by decide

/-- non-vacuity: a host state that is related to a guest register file, from which LD B,C does run to completion -/
def exGuest : Interp.Regs := { af := 0x01b0, bc := 0x0013, de := 0x00d8, hl := 0x014d, sp := 0xfffe, ip := 0x0150, cycles := 7 }
def exHost : St Unit :=
  { r := #[0xabcd01b0, 0x7777014d, 0x00d8, 0xffff0013, 0, 0, 0, 0, 0, 0, 0, 0, 0x1234fffe, 0x99990150, 0, 0x50007], bus := () }
example : Sim exGuest exHost := by constructor <;> decide
example : (match decodeCode (Gen.emitOp 0x41) with
    | some code => (match run JitCycles.nullBus code (bytesOf (Gen.emitOp 0x41)) 10 exHost with
        | .ok s' => (get s' 3).toNat % 65536 == 0x1313 && (get s' 13).toNat % 65536 == 0x151
        | .error _ => false)
    | none => false) = true := by decide +kernel

/-- non-vacuity: SUB B from the example state (A = 0x01, B = 0x00, F = 0xB0) runs and leaves AF = 0x01 / N set, others clear -/
example : (match decodeCode (Gen.emitOp 0x90) with
    | some code => (match run JitCycles.nullBus code (bytesOf (Gen.emitOp 0x90)) 20 exHost with
        | .ok s' => (get s' 0).toNat % 65536 == 0x0140
        | .error _ => false)
    | none => false) = true := by decide +kernel
example : (Interp.opSub exGuest (Interp.getReg exGuest .B)).af = 0x0140 := by decide


/-! non-vacuity of the run-level theorems: templates do run to completion on the model from a state that meets the
hypotheses (16 registers, pc = 0, r14b = 0, memory base in rdi), over a counting bus: PUSH BC (PC+1, SP−2, two byte writes),
CALL NZ taken (SP−2, two writes) and not taken (PC+3, nothing written), HALT (status class 2), POP BC (SP+2) -/
def exSt (f : Nat) : St (Unit × Nat) :=
  { r := #[BitVec.ofNat 64 f,0,0x1234,0,0,0,0,ptrVal 512,0,0,0,0,0xc000,0x150,0,7], bus := ((), 0), stack := [1,2] }
def exAfter (b0 f : Nat) : Option (Nat × Nat × Nat × Nat) :=
  match decodeCode (Gen.emitOp b0) with
  | none => none
  | some code => match run (counted JitCycles.nullBus) code (bytesOf (Gen.emitOp b0)) 400 (exSt f) with
    | .ok s' => some ((get s' 13).toNat, (get s' 12).toNat % 65536, r14b s', s'.bus.2)
    | .error _ => none
example : (exSt 0).r.size = 16 ∧ (exSt 0).pc = 0 ∧ JitStatus.statusClass (r14b (exSt 0)) = 0 := by decide
example : exAfter 0xc5 0 = some (0x150 + 1, 0xc000 - 2, 0, 2) := by decide +kernel
example : exAfter 0xc4 0x00 = some (0, 0xc000 - 2, 0, 2) ∧ exAfter 0xc4 0x80 = some (0x150 + 3, 0xc000, 0, 0) := by decide +kernel
example : exAfter 0x76 0 = some (0x150 + 1, 0xc000, 2, 0) ∧ exAfter 0xc1 0 = some (0x150 + 1, 0xc000 + 2, 0, 0) := by decide +kernel

end GbVerif.C01
