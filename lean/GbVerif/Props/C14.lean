import GbVerif.Proofs.LcdSched
/-!
C14 — LCD line/mode schedule: LY advances every 456 clocks through 0..153 (frame = 70224 clocks),
lines 0..143 are mode 2/3/0 for 80/188/188 clocks, lines 144..153 are mode 1; VBlank is requested
exactly when LY becomes 144; STAT is requested on entry to an enabled mode and when LY becomes LYC
with the coincidence enable; STAT bits 0..2 reflect the schedule; all of it independent of how
the elapsed time is batched.  The property theorems; their lemmas are in `Proofs/Lcd*.lean`.

Time is counted in clocks since power-on (`VideoState::new()` = first clock of line 144).
`pos s = sched (4 * k)` says "model state `s` sits where the schedule is after `k` four-clock
ticks"; `lcd_closed_form*` show that every state reachable from power-on satisfies it.
-/
namespace GbVerif.C14
open GbVerif.Lcd GbVerif.LcdSpec GbVerif.LcdProofs

/-- a list of `run_clock_cycles` calls (sizes in 4-clock ticks), flags OR-ed by the caller -/
def runBatches : List Nat → State → State × Flags
  | [], s => (s, 0)
  | n :: r, s => ((runBatches r (run n s).1).1, (run n s).2 ||| (runBatches r (run n s).1).2)

/-- a list of `run_clock_cycles` calls with sizes in clocks; a size that is not a multiple of 4 underflows in the code (`none`) -/
def runClockBatches : List Nat → State → Option (State × Flags)
  | [], s => some (s, 0)
  | c :: r, s =>
    match runClocks c s with
    | none => none
    | some a =>
      match runClockBatches r a.1 with
      | none => none
      | some b => some (b.1, a.2 ||| b.2)

/-- Splitting elapsed time into two calls gives the same state and the OR of the flags. -/
theorem run_add (a b : Nat) (s : State) :
    run (a + b) s = ((run b (run a s).1).1, (run a s).2 ||| (run b (run a s).1).2) :=
  LcdProofs.run_add a b s

/-- Batch independence: any partition of the elapsed ticks into calls gives the state and the
OR-ed flags of one single call. -/
theorem batch_independent (bs : List Nat) : ∀ s : State, runBatches bs s = run bs.sum s := by
  induction bs with
  | nil => intro s; rfl
  | cons n r ih =>
    intro s
    rw [runBatches, ih, List.sum_cons, LcdProofs.run_add]

/-- two partitions of the same total agree -/
theorem partitions_agree (as bs : List Nat) (s : State) (h : as.sum = bs.sum) :
    runBatches as s = runBatches bs s := by
  rw [batch_independent, batch_independent, h]

theorem runClocks_mul4 (c : Nat) (s : State) (h : c % 4 = 0) : runClocks c s = some (run (c / 4) s) := by
  simp [runClocks, h]

/-- a batch that is not a multiple of 4 clocks is outside the property: the code underflows -/
theorem runClocks_not_mul4 (c : Nat) (s : State) (h : c % 4 ≠ 0) : runClocks c s = none := by
  simp [runClocks, h]

theorem sum_mod4 : ∀ (cs : List Nat), (∀ c ∈ cs, c % 4 = 0) → cs.sum % 4 = 0
  | [], _ => rfl
  | c :: r, h => by
    have := h c (List.mem_cons_self ..)
    have := sum_mod4 r fun x hx => h x (List.mem_cons_of_mem _ hx)
    rw [List.sum_cons]; omega

theorem clock_batches (cs : List Nat) : ∀ (s : State), (∀ c ∈ cs, c % 4 = 0) →
    runClockBatches cs s = some (run (cs.sum / 4) s) := by
  induction cs with
  | nil => intro s _; rfl
  | cons c r ih =>
    intro s h
    have hc : c % 4 = 0 := h c (List.mem_cons_self ..)
    have hr : ∀ x ∈ r, x % 4 = 0 := fun x hx => h x (List.mem_cons_of_mem _ hx)
    have hs := sum_mod4 r hr
    rw [runClockBatches, runClocks_mul4 c s hc]
    simp only
    rw [ih _ hr]
    simp only
    rw [List.sum_cons, show (c + r.sum) / 4 = c / 4 + r.sum / 4 by omega, LcdProofs.run_add]

/-- `∀ k`: after `k` ticks from power-on the model sits at `sched (4 k)`. -/
theorem lcd_closed_form_ticks (k : Nat) : pos (run k powerOn).1 = sched (4 * k) := by
  have := run_closed k powerOn 0 pos_powerOn
  simpa using this

/-- Closed form for all batch partitions (sizes in clocks, multiples of 4): the call sequence
succeeds and leaves (LY, mode, dots) = `sched (Σ batches)`. -/
theorem lcd_closed_form (cs : List Nat) (h : ∀ c ∈ cs, c % 4 = 0) :
    ∃ r, runClockBatches cs powerOn = some r ∧ pos r.1 = sched cs.sum := by
  refine ⟨_, clock_batches cs powerOn h, ?_⟩
  rw [lcd_closed_form_ticks]
  have hs := sum_mod4 cs h
  congr 1; omega

/-- Closed form for every history of runs interleaved with STAT and LYC writes (all enable masks,
all LYC values, written at any time): the position depends on the elapsed ticks only. -/
theorem lcd_closed_form_ops (ops : List Op) : pos (exec powerOn ops) = sched (4 * ticksOf ops) := by
  have := exec_closed ops powerOn 0 pos_powerOn
  simpa using this

/-- every boundary of the schedule lies on a multiple of 4 clocks, so observing it every 4 clocks
(as the code and the event definitions `…Ev (4k) (4k+4)` do) loses nothing -/
theorem sched_grid (t : Nat) :
    (sched t).line = (sched (t - t % 4)).line ∧ (sched t).mode = (sched (t - t % 4)).mode := by
  rw [sched_line, sched_line, sched_mode, sched_mode]
  have h1 : lyAt t = lyAt (t - t % 4) := by unfold lyAt; omega
  refine ⟨h1, ?_⟩
  unfold modeAt
  rw [← h1]
  have h2 : (t % 456 < 80) = ((t - t % 4) % 456 < 80) := by apply propext; omega
  have h3 : (t % 456 < 268) = ((t - t % 4) % 456 < 268) := by apply propext; omega
  simp only [h2, h3]

/-- LY after any history: it advances by one every 456 clocks, modulo 154, starting at 144. -/
theorem ly_every_456 (ops : List Op) :
    getLy (exec powerOn ops) = (144 + 4 * ticksOf ops / 456) % 154 :=
  (congrArg Pos.line (lcd_closed_form_ops ops)).trans (sched_line _)

/-- Within every frame period LY takes each value 0..153 on exactly one interval of 456 clocks
(114 ticks): `lyAt t = l` iff the clock within the period lies in line `l`'s slot (the period
starts at line 144, so line `l` is slot `(l + 10) % 154`). -/
theorem ly_slot (t l : Nat) (hl : l < 154) :
    lyAt t = l ↔ 456 * ((l + 10) % 154) ≤ t % 70224 ∧ t % 70224 < 456 * ((l + 10) % 154) + 456 := by
  unfold lyAt
  omega

/-- Lines 0..143 are mode 2 for 80 clocks, mode 3 for 188, mode 0 for 188; lines 144..153 are
mode 1 throughout (`modeAt` is that sentence; see `Spec/Lcd.lean`). -/
theorem line_modes (ops : List Op) :
    getMode (exec powerOn ops) = modeAt (4 * ticksOf ops) :=
  (congrArg Pos.mode (lcd_closed_form_ops ops)).trans (sched_mode _)

/-- `modeAt` spelled out: on a visible line the mode is decided by the clock within the line,
on lines 144..153 it is 1. -/
theorem line_modes_explicit (t : Nat) :
    (lyAt t ≥ 144 → modeAt t = 1) ∧
    (lyAt t < 144 → t % 456 < 80 → modeAt t = 2) ∧
    (lyAt t < 144 → 80 ≤ t % 456 → t % 456 < 268 → modeAt t = 3) ∧
    (lyAt t < 144 → 268 ≤ t % 456 → modeAt t = 0) ∧
    lyAt t < 154 := by
  have hv : lyAt t < 144 → modeAt t = if t % 456 < 80 then 2 else if t % 456 < 268 then 3 else 0 :=
    fun h => if_neg (Nat.not_le.2 h)
  exact ⟨fun h => if_pos h,
    fun h1 h2 => (hv h1).trans (if_pos h2),
    fun h1 h2 h3 => (hv h1).trans ((if_neg (Nat.not_lt.2 h2)).trans (if_pos h3)),
    fun h1 h2 => (hv h1).trans ((if_neg (by omega)).trans (if_neg (Nat.not_lt.2 h2))),
    Nat.mod_lt _ (by decide)⟩

/-- The frame is exactly 70224 clocks: the schedule has that period, a run of 17556 ticks returns
every reachable state to itself, and no shorter time does (LY alone has minimal period 70224). -/
theorem frame_70224 :
    (∀ t, sched (t + 70224) = sched t) ∧
    (∀ s k, pos s = sched (4 * k) → (run 17556 s).1 = s) ∧
    (∀ p, (∀ t, lyAt (t + p) = lyAt t) → p % 70224 = 0) := by
  refine ⟨sched_period, run_frame_fixed, ?_⟩
  intro p h
  have h0 := h 0
  have h1 := h (456 - p % 456)
  simp only [lyAt] at h0 h1
  omega

/-- The tick from a scheduled position returns the VBlank flag iff LY goes 143 → 144 in it,
which is the last tick of every 17556-tick frame period and no other. -/
theorem vblank_once_at_144 (s : State) (k : Nat) (h : pos s = sched (4 * k)) :
    (hasVblank (tick4 s).2 = ((sched (4 * k)).line == 143 && (sched (4 * (k + 1))).line == 144)) ∧
    (hasVblank (tick4 s).2 = (k % 17556 == 17555)) := by
  refine ⟨?_, tick_vblank_iff s k h⟩
  rw [tick_vblank s k h, vblankEv_143]; rfl

/-- exactly one tick in every window of one frame raises VBlank -/
theorem vblank_once_per_frame (k : Nat) :
    ∃ j, j < 17556 ∧ vblankEv (4 * (k + j)) (4 * (k + j) + 4) = true ∧
      ∀ j', j' < 17556 → vblankEv (4 * (k + j')) (4 * (k + j') + 4) = true → j' = j := by
  refine ⟨(17555 + 17556 - k % 17556) % 17556, ?_, ?_, ?_⟩
  · omega
  · rw [vblankEv_iff]; simp only [beq_iff_eq]; omega
  · intro j' hj h
    rw [vblankEv_iff] at h; simp only [beq_iff_eq] at h; omega

/-- a batch returns the VBlank flag iff LY becomes 144 somewhere inside it -/
theorem vblank_batch (n : Nat) (s : State) (k : Nat) (h : pos s = sched (4 * k)) :
    hasVblank (run n s).2 = anyTick vblankEv k n := by
  induction n generalizing s k with
  | zero => simp [run_zero, anyTick, hasVblank_zero]
  | succ n ih =>
    rw [run_succ, hasVblank_or, tick_vblank s k h, ih (tick4 s).1 (k + 1) (tick_closed s k h)]
    rfl

/-- register writes never request VBlank -/
theorem write_no_vblank (v : Nat) (s : State) :
    hasVblank (setStat v s).2 = false ∧ hasVblank (setLyc v s).2 = false := by
  simp only [setStat, setLyc, checkCurrentLine_eq, hasVblank_ofB, and_self]

/-- The STAT flag of a tick, symbolic in the four enables and LYC: requested iff a mode whose
enable bit is set is entered, or LY changes to LYC with the coincidence enable set. -/
theorem stat_flag (s : State) (k : Nat) (h : pos s = sched (4 * k)) :
    hasStat (tick4 s).2 = statEv (enOf s) s.lyc (4 * k) (4 * k + 4) := tick_stat s k h

/-- `stat_flag` as a proposition: STAT is requested in a tick iff a mode whose enable bit is set is
entered in it, or LY changes in it to a value equal to LYC while the coincidence enable is set -/
theorem stat_iff (s : State) (k : Nat) (h : pos s = sched (4 * k)) :
    hasStat (tick4 s).2 = true ↔
      ((sched (4 * k)).mode ≠ (sched (4 * k + 4)).mode ∧ (enOf s).forMode (sched (4 * k + 4)).mode = true) ∨
      ((sched (4 * k)).line ≠ (sched (4 * k + 4)).line ∧ (sched (4 * k + 4)).line = s.lyc ∧ s.irqLyc = true) := by
  rw [tick_stat s k h]
  simp only [statEv, statEvP, modeEnteredP, lyChangedP, Bool.or_eq_true, Bool.and_eq_true, bne_iff_ne, ne_eq,
    beq_iff_eq, enOf, and_assoc]

/-- mode part: with the coincidence enable clear, STAT is requested exactly on entry to a mode
whose enable bit is set -/
theorem stat_on_mode_entry (s : State) (k : Nat) (h : pos s = sched (4 * k)) (hl : s.irqLyc = false) :
    hasStat (tick4 s).2 =
      (modeEntered (4 * k) (4 * k + 4) && (enOf s).forMode (sched (4 * k + 4)).mode) := by
  rw [tick_stat s k h]
  simp [statEv, statEvP, modeEntered, enOf, hl]

/-- coincidence part: with the three mode enables clear, STAT is requested exactly when LY
changes to a value equal to LYC and the coincidence enable is set (any LYC, 0..255 and beyond) -/
theorem stat_on_lyc (s : State) (k : Nat) (h : pos s = sched (4 * k))
    (h2 : s.irqM2 = false) (h1 : s.irqM1 = false) (h0 : s.irqM0 = false) :
    hasStat (tick4 s).2 =
      (lyChanged (4 * k) (4 * k + 4) && (sched (4 * k + 4)).line == s.lyc && s.irqLyc) := by
  rw [tick_stat s k h]
  have : ∀ m, (enOf s).forMode m = false := by
    intro m
    simp only [Enables.forMode, enOf, h2, h1, h0]
    split <;> rfl
  simp only [statEv, statEvP, this, Bool.and_false, Bool.false_or]
  rfl

/-- a batch returns the STAT flag iff some tick inside it carries an enabled STAT event -/
theorem stat_batch (n : Nat) (s : State) (k : Nat) (h : pos s = sched (4 * k)) :
    hasStat (run n s).2 = anyTick (statEv (enOf s) s.lyc) k n := by
  induction n generalizing s k with
  | zero => simp [run_zero, anyTick, hasStat_zero]
  | succ n ih =>
    rw [run_succ, hasStat_or, tick_stat s k h, ih (tick4 s).1 (k + 1) (tick_closed s k h),
      (tick4_eq s).2.2.1, (tick4_eq s).2.1]
    rfl

/-- what the correspondence driver evaluates (`evScan`: one pass over the ticks of a batch with the
schedule computed once per tick) is exactly the pair of batch events above -/
theorem batch_events_scan (e : Enables) (lyc k n : Nat) :
    evScan e lyc (sched (4 * k)) k n false false =
      (sched (4 * (k + n)), anyTick vblankEv k n, anyTick (statEv e lyc) k n) := by
  rw [evScan_eq]; simp only [Bool.false_or]

/-- runs change neither LYC nor the enables, and return no flag other than VBlank / STAT -/
theorem run_keeps_regs (n : Nat) (s : State) :
    (run n s).1.lyc = s.lyc ∧ enOf (run n s).1 = enOf s ∧ (run n s).2 < 4 :=
  ⟨(run_regs n s).1, (run_regs n s).2, run_flags_lt n s⟩

/-- a STAT write stores exactly bits 6..3 as the four enables -/
theorem setStat_enables (v : Nat) (s : State) : enOf (setStat v s).1 = Enables.ofByte v := by
  simp only [setStat, enOf, Enables.ofByte]
  rw [show (0x40 : Nat) = 2^6 from rfl, show (0x20 : Nat) = 2^5 from rfl,
      show (0x10 : Nat) = 2^4 from rfl, show (0x08 : Nat) = 2^3 from rfl]
  simp only [NatBits.mask_ne]

/-- STAT bits 0..1 are the mode, bit 2 is LY = LYC, bits 3..6 the enables, bit 7 is 0 -/
theorem stat_bits (s : State) :
    getStat s % 4 = s.mode.toNat ∧ (getStat s).testBit 2 = (s.line == s.lyc) ∧
    (getStat s).testBit 3 = s.irqM0 ∧ (getStat s).testBit 4 = s.irqM1 ∧
    (getStat s).testBit 5 = s.irqM2 ∧ (getStat s).testBit 6 = s.irqLyc ∧ getStat s < 128 := by
  rw [getStat_eq]
  exact (statOf_bits ..).1

/-- for every history from power-on, STAT bits 0..2 reflect the schedule at the elapsed time -/
theorem stat_bits_sched (ops : List Op) :
    getStat (exec powerOn ops) % 8 = statLow (exec powerOn ops).lyc (4 * ticksOf ops) := by
  have h := lcd_closed_form_ops ops
  generalize exec powerOn ops = s at h
  have hm : s.mode.toNat = (sched (4 * ticksOf ops)).mode := by rw [← h]; rfl
  have hl : s.line = (sched (4 * ticksOf ops)).line := by rw [← h]; rfl
  rw [getStat_eq, (statOf_bits ..).2, statLow, ← hm, ← hl]

/-- a reachable state meeting `pos s = sched (4 k)`: last tick of line 143 (k = 17555), LYC = 144,
coincidence and mode-1 enables set; its tick raises VBlank and STAT -/
example : let s : State := ⟨.m0, 184, 143, 144, true, false, true, false⟩
    pos s = sched (4 * 17555) ∧ hasVblank (tick4 s).2 = true ∧ hasStat (tick4 s).2 = true ∧
    pos (tick4 s).1 = sched (4 * 17556) := by decide

/-- the state at the last tick of line 143 with LYC = 144 is what the model reaches from power-on with the two writes and 17555 ticks -/
example : exec powerOn ([.stat 0x50, .lyc 144] ++ [.run 17555]) = ⟨.m0, 184, 143, 144, true, false, true, false⟩ := by
  apply state_ext
  · rw [lcd_closed_form_ops]; decide
  · rw [exec_append_run, (run_regs 17555 _).1]; rfl
  · rw [exec_append_run, (run_regs 17555 _).2]; rfl

/-- `stat_on_mode_entry`'s hypotheses: entering mode 0 on line 5 with only the mode-0 enable -/
example : let s : State := ⟨.m3, 184, 5, 0, false, false, false, true⟩
    pos s = sched (4 * (1140 + 5 * 114 + 66)) ∧ s.irqLyc = false ∧ hasStat (tick4 s).2 = true := by decide

/-- `stat_on_lyc`'s hypotheses: LY 153 → 0 with LYC = 0 and only the coincidence enable -/
example : let s : State := ⟨.m1, 452, 153, 0, true, false, false, false⟩
    pos s = sched (4 * 1139) ∧ s.irqM2 = false ∧ s.irqM1 = false ∧ s.irqM0 = false ∧
    hasStat (tick4 s).2 = true := by decide

/-- `clock_batches` / `lcd_closed_form`: a list of multiples of 4 -/
example : ∀ c ∈ [4, 456, 70224, 80], c % 4 = 0 := by decide

end GbVerif.C14
