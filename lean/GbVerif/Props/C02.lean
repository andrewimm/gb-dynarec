import GbVerif.Model.JitCycles
import GbVerif.Proofs.Enum
import GbVerif.Proofs.X86Cycles
/-!
C02 — the recompiler and the interpreter charge identical machine cycles.
Both tables are regenerated from the source on every run (`Gen.EmitTable` by RUNNING the emitter, `Gen.DecoderOps`
from the decoder arms), so the kernel checks the equalities below against the source as it stands.
-/
namespace GbVerif.C02
open GbVerif.Enum GbVerif.JitCycles GbVerif.X86

/-- the comparison for one unprefixed encoding: `true` iff the encoding is undefined/prefix, or the set of cycle
charges over all paths of the emitted code equals the set the interpreter model charges over both flag outcomes -/
def okOp (b0 : Nat) : Bool :=
  let t := Gen.emitOp b0
  if t.isEmpty then true else
  let (op, len, clk) := Gen.decode b0 0 0
  match jitCycles t, interpCycles op len clk with
  | some a, some b => a == b
  | _, _ => false

def okCb (b1 : Nat) : Bool :=
  let (op, len, clk) := Gen.decode 0xcb b1 0
  match jitCycles (Gen.emitCb b1), interpCycles op len clk with
  | some a, some b => a == b
  | _, _ => false

/-- **C02 (per instruction)**: for every unprefixed encoding the emitted code decodes inside the modelled subset,
its jumps are forward and land on instruction boundaries, r15 is written only by `add r15, imm8`, and the set of
totals over all paths equals the interpreter's set of charges (not taken / taken) -/
theorem cycles_eq_unprefixed : ∀ b0, b0 < 2^8 → okOp b0 = true :=
  forall_lt_of_allRange okOp 8 (by decide +kernel)

/-- **C02 (per instruction, CB page)**: for each of the 256 CB-prefixed encodings the totals added to r15 over all paths
of the emitted code are the interpreter's charges -/
theorem cycles_eq_cb : ∀ b1, b1 < 2^8 → okCb b1 = true :=
  forall_lt_of_allRange okCb 8 (by decide +kernel)

/-! What the analysis means on the executable x86 model:
`jitCycles` is a static analysis of the emitted bytes.  `X86.jitCycles_sound` (in `Proofs/X86Cycles.lean`: the analysis is an
instance of the generic path walk, whose soundness rests on a frame lemma over every modelled x86 instruction and the
bus-call helper) shows that its
answer bounds every execution of the template on `Model/X86Sem.lean`; the two theorems below instantiate it at all 500
templates (their byte offsets are well-formed because the decoder produced them: `X86.decodeCode_codeOk`), so the equality of cycle charges is a
statement about runs, not about a syntactic pass. -/

/-- the statement about runs for one template `t` against the decoder entry `(op, len, clk)` -/
def RunsCharge (t : List Nat) (op : Op) (len clk : Nat) : Prop :=
  ∃ code C, decodeCode t = some code ∧ interpCycles op len clk = some C ∧
    ∀ (β : Type) (B : Interp.BusOps β) (fuel : Nat) (s s' : X86.St β), s.r.size = 16 → s.pc = 0 →
      X86.run B code (bytesOf t) fuel s = .ok s' →
      ∃ l ∈ C, (X86.get s' 15).toNat = ((X86.get s 15).toNat + l) % 2 ^ 64

/-- what the comparison says when it succeeds: both sides are defined and equal -/
theorem eq_parts {t : List Nat} {op : Op} {len clk : Nat}
    (h : (match jitCycles t, interpCycles op len clk with | some a, some b => a == b | _, _ => false) = true) :
    ∃ C, jitCycles t = some C ∧ interpCycles op len clk = some C := by
  split at h
  · next a b hj hi => exact ⟨a, hj, hi.trans (congrArg some (eq_of_beq h).symm)⟩
  · cases h

theorem okOp_parts {b0 : Nat} (hne : (Gen.emitOp b0).isEmpty = false) (h : okOp b0 = true) :
    ∃ C, jitCycles (Gen.emitOp b0) = some C ∧
      interpCycles (Gen.decode b0 0 0).1 (Gen.decode b0 0 0).2.1 (Gen.decode b0 0 0).2.2 = some C := by
  unfold okOp at h
  simp only [hne, Bool.false_eq_true, if_false] at h
  exact eq_parts h

theorem okCb_parts {b1 : Nat} (h : okCb b1 = true) :
    ∃ C, jitCycles (Gen.emitCb b1) = some C ∧
      interpCycles (Gen.decode 0xcb b1 0).1 (Gen.decode 0xcb b1 0).2.1 (Gen.decode 0xcb b1 0).2.2 = some C :=
  eq_parts h

/-- a template whose analysis agrees with the interpreter's charges: every template decodes with well-formed offsets
(`decodeCode_codeOk`), so the analysis speaks about all its runs (`jitCycles_sound`) -/
theorem runsCharge_of {t : List Nat} {op : Op} {len clk : Nat} {C : List Nat} (hj : jitCycles t = some C)
    (hi : interpCycles op len clk = some C) : RunsCharge t op len clk := by
  obtain ⟨code, hdec⟩ := jitCycles_decodes hj
  obtain ⟨hok, h0⟩ := decodeCode_codeOk hdec
  exact ⟨code, C, hdec, hi, fun β B fuel s s' hsz hpc hrun => jitCycles_sound B t code C hdec hok hj fuel s s' hsz (hpc.trans h0.symm) hrun⟩

/-- **C02 (per instruction, on executions)**: for every defined unprefixed encoding, EVERY complete run of its
emitted template on the x86 model - from any register file, flags, host stack, bus and operand bytes, over any bus
behaviour - leaves r15 (the guest cycle counter) increased, modulo 2^64, by one of the charges the interpreter
model makes for that encoding (not taken / taken) -/
theorem cycles_run_unprefixed (b0 : Nat) (hb : b0 < 2^8) (hne : (Gen.emitOp b0).isEmpty = false) :
    RunsCharge (Gen.emitOp b0) (Gen.decode b0 0 0).1 (Gen.decode b0 0 0).2.1 (Gen.decode b0 0 0).2.2 := by
  obtain ⟨C, hj, hi⟩ := okOp_parts hne (cycles_eq_unprefixed b0 hb)
  exact runsCharge_of hj hi

/-- **C02 (per instruction, on executions, CB page)**: every complete run of the template of each of the 256 CB-prefixed
encodings leaves r15 increased, modulo 2^64, by one of the interpreter's charges for that encoding -/
theorem cycles_run_cb (b1 : Nat) (hb : b1 < 2^8) :
    RunsCharge (Gen.emitCb b1) (Gen.decode 0xcb b1 0).1 (Gen.decode 0xcb b1 0).2.1 (Gen.decode 0xcb b1 0).2.2 := by
  obtain ⟨C, hj, hi⟩ := okCb_parts (cycles_eq_cb b1 hb)
  exact runsCharge_of hj hi

/-! non-vacuity: templates do run to completion on the model from a state meeting the hypotheses (16 registers,
pc = 0), and the charge is the one of the branch outcome — NOP; JR NZ taken / not taken; CALL; RET NZ taken / not -/
def exSt (f : Nat) : X86.St Unit :=
  { r := #[BitVec.ofNat 64 f,0,0,0,0,0,0,0,0,0,0,0,0xc000,0x150,0,7], bus := (), stack := [1,2] }
def r15After (b0 f : Nat) : Option Nat :=
  match decodeCode (Gen.emitOp b0) with
  | none => none
  | some code => match X86.run nullBus code (bytesOf (Gen.emitOp b0)) 400 (exSt f) with
    | .ok s' => some (X86.get s' 15).toNat
    | .error _ => none
example : (exSt 0).r.size = 16 ∧ (exSt 0).pc = 0 := by decide
example : r15After 0x00 0 = some (7 + 1) := by decide +kernel
example : r15After 0x20 0x00 = some (7 + 3) ∧ r15After 0x20 0x80 = some (7 + 2) := by decide +kernel
example : r15After 0xcd 0 = some (7 + 6) := by decide +kernel
example : r15After 0xc0 0x00 = some (7 + 5) ∧ r15After 0xc0 0x80 = some (7 + 2) := by decide +kernel

/-- the table covers every defined encoding: the emitter produced code exactly for the opcodes the decoder defines -/
theorem table_covers_defined : ∀ b0, b0 < 2^8 → ((Gen.emitOp b0).isEmpty = (b0 == 0xcb || Gen.decOp b0 0 0 == Op.Invalid b0)) = true := by
  intro b0 hb
  have := forall_lt_of_allRange (fun b0 => (Gen.emitOp b0).isEmpty == (b0 == 0xcb || Gen.decOp b0 0 0 == Op.Invalid b0)) 8 (by decide +kernel) b0 hb
  simpa using this

/-- sums over blocks: if every instruction of a block (with its branch outcome) is charged the same by both engines,
so is the whole block, whatever its length -/
theorem block_cycles {α : Type} (ops : List α) (jit interp : α → Nat) (h : ∀ x ∈ ops, jit x = interp x) :
    (ops.map jit).sum = (ops.map interp).sum := by
  induction ops with
  | nil => rfl
  | cons x xs ih =>
    simp only [List.map_cons, List.sum_cons]
    rw [h x List.mem_cons_self, ih (fun y hy => h y (List.mem_cons_of_mem _ hy))]

end GbVerif.C02
