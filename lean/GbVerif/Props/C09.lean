import GbVerif.Proofs.CoreStep
import GbVerif.Proofs.CoreFrame
import GbVerif.Proofs.SysFrame
import GbVerif.Proofs.Machine
/-!
C09 — CPU and device time stay in lock step and the frame loop makes progress.

`State.delivered` (clock cycles handed to `MemoryAreas::run_clock_cycles`) and `State.charged` (machine cycles charged to the
CPU: instructions, +5 per dispatch, +1 per suspended step) are ghost counters updated by the model of
`Core::update` / `run_interp` / `run_code_block` at the places where the code calls `run_clock_cycles` / adds to
`registers.cycles`.  Everything below holds for ANY device function `dev` (the passage of device time is a parameter of the model).
`update dev` is `Core::update` without the `jit` feature (one instruction per step), `updateBlock dev` with it (one block per
step, interpreter as the block engine).
-/
namespace GbVerif.C09
open GbVerif.Core GbVerif.CoreProofs GbVerif.LcdSpec GbVerif.SysProofs

/-- clocks delivered + 4 × (machine cycles charged but not yet delivered: the five cycles of a dispatch that ended the step)
= 4 × machine cycles charged -/
def TimeInv (c : State) : Prop := c.delivered + 4 * c.regs.cycles = 4 * c.charged

/-- holds at power-on (all three counters zero), whatever the rest of the state -/
theorem time_inv_init (c : State) (h1 : c.delivered = 0) (h2 : c.charged = 0) (h3 : c.regs.cycles = 0) : TimeInv c := by
  unfold TimeInv; omega

/-- preserved by `Core::run_interp` -/
theorem time_inv_run_interp (dev : Dev) (c c' : State) (hi : TimeInv c) (h : runInterp dev c = .ok c') : TimeInv c' :=
  runInterp_timeInv hi h

/-- preserved by `Core::run_code_block` (needs: the cycle counter only grows inside a block) -/
theorem time_inv_run_code_block (dev : Dev) (c c' : State) (hi : TimeInv c) (h : runCodeBlockInterp dev c = .ok c') : TimeInv c' :=
  runCodeBlockInterp_timeInv hi h

/-- preserved by `Core::update` (instruction-stepped build), running or suspended -/
theorem time_inv_update (dev : Dev) (c c' : State) (hi : TimeInv c) (h : update dev c = .ok c') : TimeInv c' :=
  update_timeInv hi h

/-- **time_inv**: after any number of emulator steps, for any device behaviour:
clocks delivered to the devices + 4 × pending dispatch cycles = 4 × machine cycles the CPU was charged -/
theorem time_inv (dev : Dev) (n : Nat) (c c' : State) (hi : TimeInv c) (h : iter (update dev) n c = .ok c') : TimeInv c' :=
  iter_invariant (P := TimeInv) (fun _ _ hp hs => update_timeInv hp hs) n c c' hi h

/-- **time_inv** under block stepping (`jit` build): the invariant holds after any number of block steps -/
theorem time_inv_blocks (dev : Dev) (n : Nat) (c c' : State) (hi : TimeInv c) (h : iter (updateBlock dev) n c = .ok c') :
    TimeInv c' :=
  iter_invariant (P := TimeInv) (fun _ _ hp hs => updateBlock_timeInv hp hs) n c c' hi h

/-- per step: the clocks delivered during a step are four times the machine cycles consumed since the previous step's
catch-up — the step's own instruction (or 1 when suspended) plus the five cycles of a dispatch that ended the *previous*
step; a dispatch ending *this* step is charged now (`charged`) and delivered in the next step (`regs.cycles = 5`) -/
theorem step_accounting (dev : Dev) (c c' : State) (hi : TimeInv c) (h : update dev c = .ok c') :
    c'.delivered - c.delivered = 4 * ((c'.charged - c'.regs.cycles) - (c.charged - c.regs.cycles)) ∧
    c.delivered ≤ c'.delivered ∧ c.regs.cycles ≤ c.charged ∧ c'.regs.cycles ≤ c'.charged := by
  have h' := update_timeInv hi h
  have hp := update_progress h
  unfold CoreProofs.TimeInv at *
  unfold TimeInv at hi
  omega

/-- a suspended step (HALT / STOP) delivers exactly 4 clocks and charges exactly one machine cycle, +5 if it ends in a dispatch -/
theorem halted_step (dev : Dev) (c c' : State) (hr : c.run ≠ .Run) (h : update dev c = .ok c') :
    c'.delivered = c.delivered + 4 ∧ (c'.charged = c.charged + 1 ∨ c'.charged = c.charged + 1 + 5) := by
  refine ⟨update_halted_delivered hr h, ?_⟩
  obtain ⟨bus, _, h3⟩ := update_halted_shape hr h
  rcases handleInterrupt_outcomes h3 with ⟨_, rfl⟩ | ⟨_, _, rfl⟩ | ⟨_, _, b1, b2, sp2, rfl⟩
  · exact Or.inl rfl
  · exact Or.inl rfl
  · exact Or.inr rfl

/-- an interrupt dispatch charges five machine cycles (and nothing else does, inside `handle_interrupt`) -/
theorem dispatch_five (c c' : State) (h : handleInterrupt c = .ok c') :
    (c'.charged = c.charged ∧ c'.regs.cycles = c.regs.cycles) ∨
    (c'.charged = c.charged + 5 ∧ c'.regs.cycles = c.regs.cycles + 5 ∧ activeInterrupts c.bus ≠ 0 ∧ c.ime = .Enabled) := by
  rcases handleInterrupt_outcomes h with ⟨_, rfl⟩ | ⟨_, _, rfl⟩ | ⟨h0, hi, b1, b2, sp2, rfl⟩
  · exact Or.inl ⟨rfl, rfl⟩
  · exact Or.inl ⟨rfl, rfl⟩
  · exact Or.inr ⟨rfl, rfl, h0, hi⟩

/-- **catchup_before_sample**: in every step the devices are caught up (the `dev` call, with 4 × the machine cycles consumed)
*before* IF ∧ IE is sampled: the state `p` handed to `handle_interrupt` carries the bus that `dev` returned -/
theorem catchup_before_sample (dev : Dev) (c c' : State) (h : update dev c = .ok c') :
    ∃ (p : State) (b bus : Bus.State) (k : Nat), dev b (4 * k) = .ok bus ∧ p.bus = bus ∧ handleInterrupt p = .ok c' ∧
      p.delivered = c.delivered + 4 * k ∧ p.regs.cycles = (if c.run = .Run then 0 else c.regs.cycles) := by
  by_cases hr : c.run = .Run
  · rw [update_run dev c hr] at h
    obtain ⟨r, b, st, e, bus, _, h2, h3⟩ := runInterp_shape h
    refine ⟨_, b, bus, r.cycles, by rw [Nat.mul_comm]; exact h2, rfl, h3, ?_, by simp [hr, sampled]⟩
    show c.delivered + r.cycles * 4 = _; omega
  · obtain ⟨bus, h2, h3⟩ := update_halted_shape hr h
    exact ⟨_, c.bus, bus, 1, h2, rfl, h3, rfl, by simp [hr, sampledHalted]⟩

/-- **catchup_before_sample** for a block step: the devices are caught up with 4 × the machine cycles of the block before
IF ∧ IE is sampled -/
theorem catchup_before_sample_block (dev : Dev) (c c' : State) (h : runCodeBlockInterp dev c = .ok c') :
    ∃ (p : State) (b bus : Bus.State) (k : Nat), dev b (4 * k) = .ok bus ∧ p.bus = bus ∧ handleInterrupt p = .ok c' ∧
      p.delivered = c.delivered + 4 * k ∧ p.lastBlockCycles = k := by
  obtain ⟨r, b, st, bus, _, h2, h3⟩ := runCodeBlockInterp_shape h
  refine ⟨_, b, bus, r.cycles, by rw [Nat.mul_comm]; exact h2, rfl, h3, ?_, rfl⟩
  show c.delivered + r.cycles * 4 = _; omega

/-- every decoder clock entry is at least one machine cycle — for every byte value (C06.clocks_pos, C06.cb_clocks_pos)
and also for out-of-range table indices -/
theorem op_clocks_ge_4 (b0 b1 b2 : Nat) : 4 ≤ (Gen.decode b0 b1 b2).2.2 := (decode_clocks b0 b1 b2).1

/-- **progress**: every emulator step advances device time by at least one machine cycle (4 clocks) -/
theorem progress (dev : Dev) (c c' : State) (h : update dev c = .ok c') : c.delivered + 4 ≤ c'.delivered :=
  update_progress h

/-- progress under block stepping: a block executes at least one instruction -/
theorem progress_blocks (dev : Dev) (c c' : State) (h : updateBlock dev c = .ok c') : c.delivered + 4 ≤ c'.delivered :=
  updateBlock_progress h

/-- between steps the cycle counter holds at most the five cycles of a dispatch (an invariant), so an instruction-stepped
step delivers at most 56 clocks: 4 × (5 + 6 + 3) -/
theorem step_at_most_56 (dev : Dev) (c c' : State) (hs : Small c) (h : update dev c = .ok c') :
    c'.delivered ≤ c.delivered + 56 ∧ Small c' :=
  ⟨update_step_le hs h, update_small hs h⟩

/-- `Core::run_frame` on the model side: `tr i` is the core state when the loop reads the LCD's frame counter for the i-th time -/
structure FrameRun (step : State → Except Bus.Panic State) (tr : Nat → State) : Prop where
  steps : ∀ i, step (tr i) = .ok (tr (i + 1))

/-- a strictly advancing clock crosses the next multiple of the frame period, and the first sample at or after it is
less than one step beyond it -/
theorem crosses_frame (t : Nat → Nat) (hmono : ∀ i, t i + 4 ≤ t (i + 1)) :
    ∃ n, 0 < n ∧ t 0 / 70224 < t n / 70224 ∧ (∀ j, j < n → t j / 70224 = t 0 / 70224) ∧ t (n - 1) < (t 0 / 70224 + 1) * 70224 := by
  have hinc : ∀ i, t i < t (i + 1) := fun i => by have := hmono i; omega
  generalize hB : (t 0 / 70224 + 1) * 70224 = B
  -- the first sample at or beyond the boundary `B`; there is one, since `t B ≥ B`
  obtain ⟨n, _, hn1, hn2⟩ := first_reach t hinc B B (by have := T_ge t hinc B; omega)
  have hn0 : 0 < n := Nat.pos_of_ne_zero fun e => by subst e; omega
  refine ⟨n, hn0, by omega, fun j hj => ?_, hn2 (n - 1) (by omega)⟩
  have := hn2 j hj; have := T_ge t hinc j; omega

/-- **run_frame_terminates_partial**, for instruction stepping AND block stepping, with no bound on the block length.
`Core::run_frame` steps the machine until the LCD's count of completed frames changes.  Assumption (what is *not* proved
here — the composition of `dev` with the LCD model of C14): that count is the number of whole frame periods in the LCD's
clock, an offset `t0` plus the clocks delivered (`C14.vblank_once_per_frame` / `lcd_closed_form`: exactly one VBlank entry
per 70224 clocks, however the clocks are batched).  Then the loop ends at some sample `n`, every earlier sample still shows
the old count, and the last step before it started less than one frame period after the call: the call returns within one
frame period plus one step (inside the property's two frame periods plus one block). -/
theorem run_frame_terminates_partial (step : State → Except Bus.Panic State) (tr : Nat → State) (run : FrameRun step tr)
    (hprog : ∀ c c', step c = .ok c' → c.delivered + 4 ≤ c'.delivered)
    (frames : State → Nat) (t0 : Nat) (hlcd : ∀ i, frames (tr i) = (t0 + (tr i).delivered) / 70224) :
    ∃ n, 0 < n ∧ frames (tr n) ≠ frames (tr 0) ∧ (∀ j, j < n → frames (tr j) = frames (tr 0)) ∧
      (tr (n - 1)).delivered < (tr 0).delivered + 70224 := by
  obtain ⟨n, h0, h1, h2, h3⟩ := crosses_frame (fun i => t0 + (tr i).delivered)
    (fun i => by have := hprog _ _ (run.steps i); show t0 + _ + 4 ≤ t0 + _; omega)
  refine ⟨n, h0, ?_, ?_, ?_⟩
  · rw [hlcd, hlcd]; omega
  · intro j hj; rw [hlcd, hlcd]; exact h2 j hj
  · have := Nat.div_mul_le_self (t0 + (tr 0).delivered) 70224
    have hx : (t0 + (tr 0).delivered) / 70224 * 70224 + 70224 = ((t0 + (tr 0).delivered) / 70224 + 1) * 70224 := by
      rw [Nat.add_mul, Nat.one_mul]
    omega

/-- the bound in steps: every step delivers at least one machine cycle, so a call of `run_frame` takes at most 17556
steps (one per machine cycle of a frame period), instruction- or block-stepped -/
theorem run_frame_steps_le (step : State → Except Bus.Panic State) (tr : Nat → State) (run : FrameRun step tr)
    (hprog : ∀ c c', step c = .ok c' → c.delivered + 4 ≤ c'.delivered)
    (n : Nat) (hn : 0 < n) (h : (tr (n - 1)).delivered < (tr 0).delivered + 70224) : n ≤ 17556 := by
  have hge : ∀ i, (tr 0).delivered + 4 * i ≤ (tr i).delivered := by
    intro i
    induction i with
    | zero => omega
    | succ i ih => have := hprog _ _ (run.steps i); omega
  have := hge (n - 1)
  omega

/-- the instances: both step functions of the emulator make progress, whatever the devices do -/
theorem run_frame_terminates_update (dev : Dev) (tr : Nat → State) (run : FrameRun (update dev) tr)
    (frames : State → Nat) (t0 : Nat) (hlcd : ∀ i, frames (tr i) = (t0 + (tr i).delivered) / 70224) :
    ∃ n, 0 < n ∧ frames (tr n) ≠ frames (tr 0) ∧ (tr (n - 1)).delivered < (tr 0).delivered + 70224 := by
  obtain ⟨n, h0, h1, _, h3⟩ := run_frame_terminates_partial (update dev) tr run (fun c c' h => update_progress h) frames t0 hlcd
  exact ⟨n, h0, h1, h3⟩

theorem run_frame_terminates_blocks (dev : Dev) (tr : Nat → State) (run : FrameRun (updateBlock dev) tr)
    (frames : State → Nat) (t0 : Nat) (hlcd : ∀ i, frames (tr i) = (t0 + (tr i).delivered) / 70224) :
    ∃ n, 0 < n ∧ frames (tr n) ≠ frames (tr 0) ∧ (tr (n - 1)).delivered < (tr 0).delivered + 70224 := by
  obtain ⟨n, h0, h1, _, h3⟩ := run_frame_terminates_partial (updateBlock dev) tr run (fun c c' h => updateBlock_progress h) frames t0 hlcd
  exact ⟨n, h0, h1, h3⟩

/-! The whole machine: `Sys.dev` = OAM DMA + timer + LCD + joypad as `MemoryAreas::run_clock_cycles` composes them

`SysInv c` says: the LCD sits where the schedule of C14 puts it after `c.delivered` clocks and has counted
`c.delivered / 70224` completed frames.  It holds for a freshly created machine and is preserved by every step, whatever
the program does (all 90 instruction forms, every register write, OAM DMA, dispatch, HALT/STOP), instruction-stepped or
block-stepped: the assumption of `run_frame_terminates_partial` is a theorem for the real device function. -/

/-- one step keeps the LCD in lock step with the delivered clocks -/
theorem sys_inv_update (c c' : State) (h : update Sys.dev c = .ok c') (hi : SysInv c) : SysInv c' := update_inv h hi
theorem sys_inv_updateBlock (c c' : State) (h : updateBlock Sys.dev c = .ok c') (hi : SysInv c) : SysInv c' := updateBlock_inv h hi

/-- the LCD is in lock step with the delivered clocks after a run of any length from a freshly created machine -/
theorem sys_inv_reachable (kind : Cart.Kind) (romBanks ramBytes : Nat) (rom : Nat → Nat) (regs : Interp.Regs) (n : Nat) (c' : State)
    (h : iter (update Sys.dev) n { regs := regs, bus := Bus.create kind romBanks ramBytes rom } = .ok c') : SysInv c' :=
  iter_invariant (P := SysInv) (fun _ _ hi h => update_inv h hi) n _ _ (sysInv_create kind romBanks ramBytes rom regs) h

/-- what the invariant says about the registers a program can read: LY and the STAT mode are those of the closed-form
schedule at the delivered clock total, the frame counter is the number of whole frame periods (C14 ∘ C09) -/
theorem sys_lcd_observables (c : State) (hi : SysInv c) :
    c.bus.io.video.line = lyAt c.delivered ∧ (Sys.modeOfNat c.bus.io.video.mode).toNat = modeAt c.delivered ∧
    Sys.frames c = c.delivered / 70224 := by
  obtain ⟨_, h2, h3⟩ := hi
  have hl : (GbVerif.LcdProofs.pos (Sys.lcdOf c.bus.io.video)).line = (sched c.delivered).line := by rw [h2]
  have hm : (GbVerif.LcdProofs.pos (Sys.lcdOf c.bus.io.video)).mode = (sched c.delivered).mode := by rw [h2]
  rw [GbVerif.LcdProofs.sched_line] at hl
  rw [GbVerif.LcdProofs.sched_mode] at hm
  exact ⟨hl, hm, h3⟩

/-- **run_frame_terminates** for the modelled machine, no assumption left: from any state satisfying the machine
invariant (in particular any state reachable from power-on), `Core::run_frame` — which steps until
`get_frames_completed` changes — returns; every earlier poll still shows the old count; the last step before the
change started less than one frame period after the call.  Instruction stepping. -/
theorem run_frame_terminates (tr : Nat → State) (run : FrameRun (update Sys.dev) tr) (h0 : SysInv (tr 0)) :
    ∃ n, 0 < n ∧ Sys.frames (tr n) ≠ Sys.frames (tr 0) ∧ (∀ j, j < n → Sys.frames (tr j) = Sys.frames (tr 0)) ∧
      (tr (n - 1)).delivered < (tr 0).delivered + 70224 := by
  have hall : ∀ i, SysInv (tr i) := by
    intro i
    induction i with
    | zero => exact h0
    | succ i ih => exact update_inv (run.steps i) ih
  exact run_frame_terminates_partial (update Sys.dev) tr run (fun c c' h => update_progress h) Sys.frames 0
    (fun i => by rw [Nat.zero_add]; exact (hall i).2.2)

/-- **run_frame_terminates** under block stepping (`jit` feature), with no bound on the block length -/
theorem run_frame_terminates_blockstep (tr : Nat → State) (run : FrameRun (updateBlock Sys.dev) tr) (h0 : SysInv (tr 0)) :
    ∃ n, 0 < n ∧ Sys.frames (tr n) ≠ Sys.frames (tr 0) ∧ (∀ j, j < n → Sys.frames (tr j) = Sys.frames (tr 0)) ∧
      (tr (n - 1)).delivered < (tr 0).delivered + 70224 := by
  have hall : ∀ i, SysInv (tr i) := by
    intro i
    induction i with
    | zero => exact h0
    | succ i ih => exact updateBlock_inv (run.steps i) ih
  exact run_frame_terminates_partial (updateBlock Sys.dev) tr run (fun c c' h => updateBlock_progress h) Sys.frames 0
    (fun i => by rw [Nat.zero_add]; exact (hall i).2.2)

/-! One invariant for every reachable state of the machine.

`MachineOk` = buffer sizes, timer / DMA bookkeeping in range (`BusOk`), the LCD on the schedule of the delivered clocks
(`SysInv`), time conservation (`TimeInv`), at most five cycles pending (`Small`).  It holds at power-on and is kept by
every successful step, instruction- or block-stepped, for every program (the only ways a step can fail in the model are
the panics of the code: an undefined opcode, execution from a non-executable area). -/

theorem machine_ok_update (c c' : State) (ok : MachineOk c) (h : update Sys.dev c = .ok c') : MachineOk c' :=
  update_machineOk ok h
theorem machine_ok_updateBlock (c c' : State) (ok : MachineOk c) (h : updateBlock Sys.dev c = .ok c') : MachineOk c' :=
  updateBlock_machineOk ok h

/-- every state reachable from a freshly created machine, by any number of steps of either kind in any order -/
theorem machine_ok_reachable (kind : Cart.Kind) (romBanks ramBytes : Nat) (rom : Nat → Nat) (regs : Interp.Regs)
    (hb : 2 ≤ romBanks) (hc : regs.cycles = 0) (steps : List Bool) :
    ∀ c', (steps.foldlM (fun c blk => if blk then updateBlock Sys.dev c else update Sys.dev c)
            ({ regs := regs, bus := Bus.create kind romBanks ramBytes rom } : State)) = .ok c' → MachineOk c' := by
  have key : ∀ (steps : List Bool) (c c' : State), MachineOk c →
      steps.foldlM (fun c blk => if blk then updateBlock Sys.dev c else update Sys.dev c) c = .ok c' → MachineOk c' := by
    intro steps
    induction steps with
    | nil => intro c c' ok h; injection h with h; subst h; exact ok
    | cons b rest ih =>
      intro c c' ok h
      simp only [List.foldlM, bind, Except.bind] at h
      split at h
      · cases h
      · rename_i c1 h1
        refine ih c1 c' ?_ h
        cases b with
        | true => simp only [if_true] at h1; exact updateBlock_machineOk ok h1
        | false => simp only [Bool.false_eq_true, if_false] at h1; exact update_machineOk ok h1
  intro c' h
  exact key steps _ c' (machineOk_create kind romBanks ramBytes rom regs hb hc) h

/-- what the invariant buys, at every reachable state: the passage of any amount of time cannot panic, catch-up
batches can be split or merged freely, and `run_frame` returns -/
theorem machine_ok_facts (c : State) (ok : MachineOk c) :
    (∀ k, k % 4 = 0 → k < 2 ^ 32 - 65536 → ∃ b', Sys.dev c.bus k = .ok b') ∧
    (∀ a b, a % 4 = 0 → b % 4 = 0 → 4 ≤ a → a + b < 2 ^ 32 - 65536 →
        Sys.dev c.bus (a + b) = (Sys.dev c.bus a).bind fun s1 => Sys.dev s1 b) ∧
    (∀ tr : Nat → State, tr 0 = c → FrameRun (updateBlock Sys.dev) tr →
        ∃ n, 0 < n ∧ n ≤ 17556 ∧ Sys.frames (tr n) ≠ Sys.frames c) := by
  obtain ⟨⟨wf, io, hd⟩, si, _, _⟩ := ok
  refine ⟨?_, ?_, ?_⟩
  · intro k hk hb
    obtain ⟨b', h, _⟩ := dev_total wf io.1 hk hb
    exact ⟨b', h⟩
  · intro a b ha hb ha4 hab
    exact dev_add wf io hd a b ha hb ha4 hab
  · intro tr h0 run
    obtain ⟨n, hn, hne, _, hlt⟩ := run_frame_terminates_blockstep tr run (by rw [h0]; exact si)
    refine ⟨n, hn, ?_, by rw [← h0]; exact hne⟩
    exact run_frame_steps_le (updateBlock Sys.dev) tr run (fun c c' h => updateBlock_progress h) n hn hlt

/-! Concrete runs: the hypotheses are satisfiable and the counters move as stated. -/

/-- devices without behaviour: time passes, nothing is raised -/
def dev0 : Dev := fun b _ => .ok b

/-- ROM: `EI` at 0x100, `HALT` at 0x101, `NOP`s elsewhere; MBC1, 4 banks, 32 KiB RAM -/
def bus0 : Bus.State := Bus.create .mbc1 4 32768 (fun i => if i = 0x100 then 0xfb else if i = 0x101 then 0x76 else 0)

/-- power-on-like state with the Timer interrupt requested and enabled -/
def c0 : State := { regs := { sp := 0xdffe, ip := 0x100 }, bus := { bus0 with io := { bus0.io with ifl := 4, ie := 4 } } }

def obs (r : Except Bus.Panic State) : Option (Nat × Nat × Nat × Nat × Nat) :=
  match r with
  | .ok c => some (c.delivered, c.charged, c.regs.cycles, c.regs.ip, if c.run = .Run then 0 else 1)
  | .error _ => none

example : TimeInv c0 := time_inv_init c0 rfl rfl rfl
example : Small c0 := ⟨by decide, fun _ => rfl⟩
/-- EI: 4 clocks, 1 cycle, no dispatch yet -/
example : obs (iter (update dev0) 1 c0) = some (4, 1, 0, 0x101, 0) := by decide +kernel
/-- HALT with the request pending: the EI takes effect, dispatch at the end of the step: 2 cycles delivered, 7 charged, 5 pending -/
example : obs (iter (update dev0) 2 c0) = some (8, 7, 5, 0x50, 0) := by decide +kernel
/-- the NOP at the vector: the five dispatch cycles are delivered with it: 8 + 4·(5+1) clocks, 8 cycles -/
example : obs (iter (update dev0) 3 c0) = some (32, 8, 0, 0x51, 0) := by decide +kernel
/-- block stepping from `c0`: the block is EI alone (EI ends a block), and the dispatch follows in the same step -/
example : obs (iter (updateBlock dev0) 1 c0) = some (4, 6, 5, 0x50, 0) := by decide +kernel

end GbVerif.C09
