import GbVerif.Proofs.BusWf
import GbVerif.Gen.HeaderTables
import GbVerif.Proofs.SysTotal
import GbVerif.Proofs.BusIo
import GbVerif.Proofs.Header
/-!
C11 — no guest-controlled bus access can crash the emulator.

The bus model (`Model/Bus.lean`) makes every Rust panic of `memory_read_byte` / `memory_write_byte` / the word
helpers / the OAM-DMA loop explicit (`Except Panic`).  The theorems below say that from every state the guest can
reach — any supported cartridge type, any ROM-size and RAM-size code of the header tables (regenerated from
`cart.rs`), any history of bus accesses and DMA catch-ups — none of these panics is reachable.
Lemmas: `Proofs/BusBasic.lean`, `Proofs/BusWf.lean`.
-/
namespace GbVerif.C11
open GbVerif.Bus GbVerif.BusProofs

/-- Well-formedness: the buffer sizes `MemoryAreas::with_rom_file` creates (`Bus.create`); the cartridge RAM size
and every register value are unconstrained. -/
abbrev WF (s : State) : Prop := BusProofs.WF s

theorem wf_iff (s : State) : WF s ↔ (s.vram.size = 0x2000 ∧ s.wram.size = 0x2000 ∧ s.oam.size = 0xa0 ∧
    s.hram.size = 127 ∧ s.romLen = s.cart.romBanks * 0x4000 ∧ 2 ≤ s.cart.romBanks) :=
  ⟨fun ⟨a, b, c, d, e, f⟩ => ⟨a, b, c, d, e, f⟩, fun ⟨a, b, c, d, e, f⟩ => ⟨a, b, c, d, e, f⟩⟩

/-- every cartridge `with_rom_file` can build is well-formed: any controller kind, any RAM size, any ROM of ≥ 2 banks -/
theorem wf_create (k : Cart.Kind) (romBanks ramBytes : Nat) (rom : Nat → Nat) (h : 2 ≤ romBanks) :
    WF (create k romBanks ramBytes rom) := BusProofs.wf_create k romBanks ramBytes rom h

/-- every ROM-size code of `Header::get_rom_bank_count` (table regenerated from cart.rs) gives at least 2 banks -/
theorem header_rom_banks (code : Nat) : 2 ≤ Gen.HeaderTables.romBanks code :=
  HeaderProofs.romBanks_pos code

/-- a write that completes keeps the state well-formed (any address, any value, any banking state) -/
theorem wf_write {s s' : State} {a v : Nat} (wf : WF s) (h : write s a v = .ok s') : WF s' :=
  BusProofs.wf_write wf h

/-- the ROM bank register always selects a bank that exists, whatever was written to the controller -/
theorem rom_bank_in_range {s : State} (wf : WF s) : Cart.getRomBank s.cart < s.cart.romBanks :=
  getRomBank_lt s.cart wf.banks

/-- every byte read completes -/
theorem read_total {s : State} {a : Nat} (wf : WF s) (ha : a < 65536) : ∃ v, read s a = .ok v :=
  BusProofs.read_total wf ha

/-- every byte write completes (and the result is well-formed again) -/
theorem write_total {s : State} {a : Nat} (v : Nat) (wf : WF s) (ha : a < 65536) :
    ∃ s', write s a v = .ok s' ∧ WF s' := by
  obtain ⟨s', h⟩ := BusProofs.write_total wf v ha
  exact ⟨s', h, BusProofs.wf_write wf h⟩

/-- every 16-bit read completes, including the one at 0xFFFF whose high byte wraps to 0x0000 -/
theorem readWord_total {s : State} {a : Nat} (wf : WF s) (ha : a < 65536) : ∃ v, readWord s a = .ok v :=
  BusProofs.readWord_total wf ha

/-- every 16-bit write completes, including the one at 0xFFFF -/
theorem writeWord_total {s : State} {a : Nat} (v : Nat) (wf : WF s) (ha : a < 65536) :
    ∃ s', writeWord s a v = .ok s' ∧ WF s' := BusProofs.writeWord_total wf v ha

/-- the OAM-DMA catch-up never panics, for every source page (0xFF46 accepts any byte), progress and batch size -/
theorem dma_total {s : State} (wf : WF s) (clocks : Nat) : ∃ s', runDma s clocks = .ok s' ∧ WF s' :=
  BusProofs.runDma_total wf clocks

/-! ### histories -/

/-- what the guest (CPU, either engine) and the clock can do to the bus -/
inductive Op where
  | read (a : Nat)
  | write (a v : Nat)
  | readWord (a : Nat)
  | writeWord (a v : Nat)
  | clock (cycles : Nat)      -- `MemoryAreas::run_clock_cycles`: DMA catch-up

/-- addresses are `u16` -/
def Op.valid : Op → Prop
  | .read a => a < 65536
  | .write a _ => a < 65536
  | .readWord a => a < 65536
  | .writeWord a _ => a < 65536
  | .clock _ => True

def step (s : State) : Op → Except Panic State
  | .read a => do let _ ← read s a; pure s
  | .write a v => write s a v
  | .readWord a => do let _ ← readWord s a; pure s
  | .writeWord a v => writeWord s a v
  | .clock c => runDma s c

def run (s : State) : List Op → Except Panic State
  | [] => .ok s
  | op :: ops => do let s ← step s op; run s ops

theorem step_total {s : State} (wf : WF s) (op : Op) (hv : op.valid) : ∃ s', step s op = .ok s' ∧ WF s' := by
  cases op with
  | read a => obtain ⟨v, h⟩ := BusProofs.read_total wf (a := a) hv; exact ⟨s, by simp only [step, h]; rfl, wf⟩
  | write a v => exact write_total v wf hv
  | readWord a => obtain ⟨v, h⟩ := BusProofs.readWord_total wf (a := a) hv; exact ⟨s, by simp only [step, h]; rfl, wf⟩
  | writeWord a v => exact BusProofs.writeWord_total wf v hv
  | clock c => exact BusProofs.runDma_total wf c

/-- well-formedness is an invariant of every history, and no history panics -/
theorem wf_reachable : ∀ (ops : List Op) {s : State}, WF s → (∀ op ∈ ops, op.valid) →
    ∃ s', run s ops = .ok s' ∧ WF s'
  | [], s, wf, _ => ⟨s, rfl, wf⟩
  | op :: ops, s, wf, hv => by
    obtain ⟨s1, h1, wf1⟩ := step_total wf op (hv op List.mem_cons_self)
    obtain ⟨s2, h2, wf2⟩ := wf_reachable ops wf1 (fun o ho => hv o (List.mem_cons_of_mem _ ho))
    exact ⟨s2, by simp only [run, h1]; exact h2, wf2⟩

/-- `Header::create_cart_state` kind codes of `Gen.HeaderTables.cartKind` -/
def kindOfCode : Nat → Cart.Kind
  | 0 => .none
  | 1 => .mbc1
  | _ => .mbc3

/-- **C11**: for every cartridge type the loader accepts, every ROM-size and RAM-size code, every ROM content
and every history of byte/word reads and writes at any addresses with any values, interleaved with DMA catch-up
batches of any length, no access panics — and the same holds for every further access afterwards. -/
theorem no_crash (typeCode romCode ramCode k : Nat) (hk : Gen.HeaderTables.cartKind typeCode = some k)
    (rom : Nat → Nat) (ops : List Op) (hv : ∀ op ∈ ops, op.valid) :
    ∃ s', run (create (kindOfCode k) (Gen.HeaderTables.romBanks romCode) (Gen.HeaderTables.ramBytes ramCode) rom) ops
      = .ok s' ∧ WF s' :=
  have _ := hk
  wf_reachable ops (wf_create _ _ _ rom (header_rom_banks romCode)) hv

/-! ### the passage of time as the real machine composes it

`Op.clock` above is the OAM-DMA copy alone.  `MemoryAreas::run_clock_cycles` also runs the timer (a checked `u32`
addition), the LCD loop (`cycles_remaining -= 4` on a `usize`) and the joypad, byte by byte while a DMA is active
(`Sys.dev`, the device function the c09 / c04 / c10 streams tie to the code).  None of that can panic either. -/

open GbVerif.SysProofs in
/-- the invariant of the whole-machine histories: buffer sizes, and the timer counter in its 16 bits -/
def SysOk (s : State) : Prop := WF s ∧ TimerOk s

open GbVerif.SysProofs in
theorem sysOk_create (k : Cart.Kind) (romBanks ramBytes : Nat) (rom : Nat → Nat) (h : 2 ≤ romBanks) :
    SysOk (create k romBanks ramBytes rom) := ⟨wf_create k romBanks ramBytes rom h, by show (0 : Nat) < 65536; decide⟩

open GbVerif.SysProofs in
/-- a completed bus write keeps the invariant (a DIV write clears the counter, nothing else assigns it) -/
theorem sysOk_write {s s' : State} {a v : Nat} (ok : SysOk s) (ha : a < 65536) (h : write s a v = .ok s') : SysOk s' := by
  refine ⟨BusProofs.wf_write ok.1 h, ?_⟩
  show s'.io.timer.cycleCount < 65536
  rcases (BusProofs.write_effect h).io with e | e | e <;> rw [e]
  · exact ok.2
  · exact ok.2
  · exact setByte_timerOk _ _ _ ok.2

/-- what the guest and the clock can do to the whole machine -/
inductive SysOp where
  | read (a : Nat)
  | write (a v : Nat)
  | readWord (a : Nat)
  | writeWord (a v : Nat)
  | time (clocks : Nat)      -- `MemoryAreas::run_clock_cycles(clocks)`: DMA, timer, LCD, joypad

/-- addresses are `u16`; the core hands over whole machine cycles, far below 2^32 clocks per step -/
def SysOp.valid : SysOp → Prop
  | .read a => a < 65536
  | .write a _ => a < 65536
  | .readWord a => a < 65536
  | .writeWord a _ => a < 65536
  | .time k => k % 4 = 0 ∧ k < 2 ^ 32 - 65536

def sysStep (s : State) : SysOp → Except Panic State
  | .read a => do let _ ← read s a; pure s
  | .write a v => write s a v
  | .readWord a => do let _ ← readWord s a; pure s
  | .writeWord a v => writeWord s a v
  | .time k => Sys.dev s k

def sysRun (s : State) : List SysOp → Except Panic State
  | [] => .ok s
  | op :: ops => do let s ← sysStep s op; sysRun s ops

open GbVerif.SysProofs in
theorem sysStep_total {s : State} (ok : SysOk s) (op : SysOp) (hv : op.valid) : ∃ s', sysStep s op = .ok s' ∧ SysOk s' := by
  cases op with
  | read a => obtain ⟨v, h⟩ := BusProofs.read_total ok.1 (a := a) hv; exact ⟨s, by simp only [sysStep, h]; rfl, ok⟩
  | write a v =>
    obtain ⟨s', h, _⟩ := write_total v ok.1 hv
    exact ⟨s', h, sysOk_write ok hv h⟩
  | readWord a => obtain ⟨v, h⟩ := BusProofs.readWord_total ok.1 (a := a) hv; exact ⟨s, by simp only [sysStep, h]; rfl, ok⟩
  | writeWord a v =>
    -- two byte writes
    obtain ⟨s1, h1, _⟩ := write_total (v &&& 0xff) ok.1 hv
    have ok1 := sysOk_write ok hv h1
    have ha2 : (a + 1) % 65536 < 65536 := Nat.mod_lt _ (by decide)
    obtain ⟨s2, h2, _⟩ := write_total (v >>> 8) ok1.1 ha2
    exact ⟨s2, by simp only [sysStep]; unfold writeWord; rw [h1]; exact h2, sysOk_write ok1 ha2 h2⟩
  | time k => exact dev_total ok.1 ok.2 hv.1 hv.2

/-- no history of bus accesses and time panics, and the invariant holds after it -/
theorem sys_reachable : ∀ (ops : List SysOp) {s : State}, SysOk s → (∀ op ∈ ops, op.valid) →
    ∃ s', sysRun s ops = .ok s' ∧ SysOk s'
  | [], s, ok, _ => ⟨s, rfl, ok⟩
  | op :: ops, s, ok, hv => by
    obtain ⟨s1, h1, ok1⟩ := sysStep_total ok op (hv op List.mem_cons_self)
    obtain ⟨s2, h2, ok2⟩ := sys_reachable ops ok1 (fun o ho => hv o (List.mem_cons_of_mem _ ho))
    exact ⟨s2, by simp only [sysRun, h1]; exact h2, ok2⟩

/-- **C11 with time**: for every cartridge the loader accepts and every history of byte/word accesses interleaved with
the passage of any amounts of time through the real device composition, nothing panics -/
theorem no_crash_sys (typeCode romCode ramCode k : Nat) (hk : Gen.HeaderTables.cartKind typeCode = some k)
    (rom : Nat → Nat) (ops : List SysOp) (hv : ∀ op ∈ ops, op.valid) :
    ∃ s', sysRun (create (kindOfCode k) (Gen.HeaderTables.romBanks romCode) (Gen.HeaderTables.ramBytes ramCode) rom) ops
      = .ok s' ∧ SysOk s' :=
  have _ := hk
  sys_reachable ops (sysOk_create _ _ _ rom (header_rom_banks romCode)) hv

/-! ### non-vacuity -/

/-- the model does panic outside the invariant: a ROM shorter than two banks, bank register beyond it -/
example : read (create .none 1 0 (fun _ => 0)) 0x4000 = .error (.oob "romx") := rfl
/-- …and the invariant is what excludes it -/
example : ¬ WF (create .none 1 0 (fun _ => 0)) := fun h => absurd h.banks (by decide)
example : WF (create .mbc1 4 0x8000 (fun i => i % 251)) := wf_create _ _ _ _ (by decide)
/-- the word accesses at 0xFFFF wrap to 0x0000 (IE low, ROM byte 0 high) -/
example : readWord (create .mbc3 72 0 (fun i => i + 7)) 0xffff = .ok 0x0700 := rfl
example : (Op.writeWord 0xffff 0x1234).valid ∧ (Op.read 0xa000).valid ∧ (Op.clock 644).valid := by
  exact ⟨(by decide : 0xffff < 65536), (by decide : 0xa000 < 65536), trivial⟩
example : Gen.HeaderTables.cartKind 0x13 = some 3 ∧ Gen.HeaderTables.romBanks 0x52 = 72 ∧
    Gen.HeaderTables.ramBytes 1 = 2048 := by decide

end GbVerif.C11
