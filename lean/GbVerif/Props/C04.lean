import GbVerif.Model.Core
/-!
C04 — enabling the recompiler does not change what a guest program computes.
`Core::run_code_block` is one function with the execution engine as its only build-dependent part: the status
interpretation, cycle consumption, device catch-up and interrupt dispatch are literally shared.  The theorem is
therefore a congruence: if the two engines agree on every block (C01 ∧ C02 ∧ C03 on the blocks the recompiler handles,
identity elsewhere), the two machines agree after every number of steps.
-/
namespace GbVerif.C04
open GbVerif.Core GbVerif.Interp

/-- a block engine: registers and bus before ↦ registers, bus and status after (or a panic) -/
abbrev Engine := Regs → Bus.State → Except Bus.Panic (Regs × Bus.State × Nat)

/-- `Core::run_code_block` with the engine as a parameter (the interpreter instance is `Core.runCodeBlockInterp`) -/
def runCodeBlockWith (eng : Engine) (dev : Dev) (c : State) : Except Bus.Panic State := do
  let (r, b, status) ← eng c.regs c.bus
  let charged := c.charged + (r.cycles - c.regs.cycles)
  let c := { c with regs := r, bus := b, charged := charged }
  let c :=
    if status == STATUS_STOP then { c with run := .Stop }
    else if status == STATUS_HALT then { c with run := .Halt }
    else if status == STATUS_INTERRUPT_DISABLE then { c with ime := .Disabled }
    else if status == STATUS_INTERRUPT_ENABLE || status == STATUS_INTERRUPT_ENABLE_IMMEDIATE then { c with ime := .Enabled }
    else c
  catchUp dev c true

theorem interp_instance (dev : Dev) (c : State) :
    runCodeBlockWith (fun r b => Cpu.runCodeBlock r b 65536) dev c = runCodeBlockInterp dev c := rfl

/-- n steps of the block-stepped machine -/
def steps (eng : Engine) (dev : Dev) : Nat → State → Except Bus.Panic State
  | 0, c => .ok c
  | n+1, c => do let c' ← runCodeBlockWith eng dev c; steps eng dev n c'

/-- statuses are read only through their class: engines that agree up to the class of the status byte
(RETI: 4 from translated code, 5 from the interpreter) give the same step -/
def sameClass (a b : Nat) : Prop :=
  (a == STATUS_STOP) = (b == STATUS_STOP) ∧ (a == STATUS_HALT) = (b == STATUS_HALT) ∧
  (a == STATUS_INTERRUPT_DISABLE) = (b == STATUS_INTERRUPT_DISABLE) ∧
  ((a == STATUS_INTERRUPT_ENABLE || a == STATUS_INTERRUPT_ENABLE_IMMEDIATE) = (b == STATUS_INTERRUPT_ENABLE || b == STATUS_INTERRUPT_ENABLE_IMMEDIATE))

/-- **engine independence**: engines that agree on every block produce the same machine after every number of steps,
for every device behaviour -/
theorem engine_indep (e1 e2 : Engine) (h : ∀ r b, e1 r b = e2 r b) (dev : Dev) :
    ∀ n c, steps e1 dev n c = steps e2 dev n c := by
  intro n
  induction n with
  | zero => intro c; rfl
  | succ n ih =>
    intro c
    simp only [steps, runCodeBlockWith, h, ih]

/-- one step: two engines that return the same registers and bus for the block at `c`, and statuses of the same class,
give the same machine -/
theorem step_status_class (e1 e2 : Engine) (dev : Dev) (c : State) (r : Regs) (b : Bus.State) (s1 s2 : Nat)
    (h1 : e1 c.regs c.bus = .ok (r, b, s1)) (h2 : e2 c.regs c.bus = .ok (r, b, s2)) (hs : sameClass s1 s2) :
    runCodeBlockWith e1 dev c = runCodeBlockWith e2 dev c := by
  obtain ⟨ha, hb, hc, hd⟩ := hs
  simp only [runCodeBlockWith, h1, h2, bind, Except.bind, ha, hb, hc, hd]

/-- non-vacuity: the RETI statuses of the two engines are in the same class -/
example : sameClass STATUS_INTERRUPT_ENABLE STATUS_INTERRUPT_ENABLE_IMMEDIATE := by
  refine ⟨?_, ?_, ?_, ?_⟩ <;> decide

end GbVerif.C04
