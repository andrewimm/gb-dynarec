import GbVerif.Model.Bus
import GbVerif.Spec.Serial
import GbVerif.Proofs.NatBits
import GbVerif.Proofs.SerialMono
/-!
C18 — serial transfers appear on standard output in order; nothing else of the bus model writes to that stream.
-/
namespace GbVerif.C18
open GbVerif.Bus

theorem and80 (v : Nat) : (v &&& 0x80 != 0) = (v / 128 % 2 == 1) := by
  rw [show (0x80 : Nat) = 2 ^ 7 from rfl, NatBits.mask_ne, Nat.testBit_eq_decide_div_mod_eq]
  rfl

/-- one I/O write moves the serial part of the model exactly as the spec's step -/
theorem io_step (io : Io) (a v : Nat) (ha : a = 0xff01 ∨ a = 0xff02) :
    ((io.setByte a v).sb, (io.setByte a v).serialOut) = SerialSpec.step (io.sb, io.serialOut) (a, v) := by
  rcases ha with rfl | rfl
  · simp [Io.setByte, SerialSpec.step]
  · have := and80 v
    by_cases h : v / 128 % 2 = 1
    · simp [Io.setByte, SerialSpec.step, this, h]
    · simp [Io.setByte, SerialSpec.step, this, h]

/-- **serial_log**: after any sequence of writes to 0xFF01/0xFF02 the bytes emitted are exactly the data-register contents
at each control write with bit 7 set, in program order -/
theorem serial_log (ws : List (Nat × Nat)) (hw : ∀ w ∈ ws, w.1 = 0xff01 ∨ w.1 = 0xff02) (io : Io) :
    let io' := ws.foldl (fun io w => io.setByte w.1 w.2) io
    (io'.sb, io'.serialOut) = ws.foldl SerialSpec.step (io.sb, io.serialOut) := by
  induction ws generalizing io with
  | nil => rfl
  | cons w ws ih =>
    simp only [List.foldl]
    rw [ih (fun x hx => hw x (List.mem_cons_of_mem _ hx)), io_step io w.1 w.2 (hw w List.mem_cons_self)]

/-- no other I/O register write emits anything: the output stream changes only through 0xFF02 -/
theorem core_silent_io (io : Io) (a v : Nat) (ha : a &&& 0xff ≠ 0x02) : (io.setByte a v).serialOut = io.serialOut := by
  unfold Io.setByte
  split <;> first | rfl | (exfalso; apply ha; assumption) | simp

/-- non-vacuity: "GB" as the fallback ROM sends it -/
example : SerialSpec.output [(0xff01, 0x47), (0xff02, 0x80), (0xff01, 0x42), (0xff02, 0x80), (0xff02, 0x7f)] = [0x47, 0x42] := by decide


/-! ### the whole machine

`serial_log` is about the I/O block alone.  For the whole machine (`Core.update Sys.dev`: every instruction, interrupt
dispatch, OAM DMA, timer, LCD, joypad) the bytes already emitted are never retracted or reordered, in either stepping
mode: the log after a step extends the log before it. -/

open GbVerif.Core GbVerif.CoreProofs GbVerif.SysProofs in
theorem serial_log_grows (c c' : Core.State) (h : update Sys.dev c = .ok c') : c.bus.io.serialOut <+: c'.bus.io.serialOut :=
  update_log h

open GbVerif.Core GbVerif.CoreProofs GbVerif.SysProofs in
theorem serial_log_grows_blockstep (c c' : Core.State) (h : updateBlock Sys.dev c = .ok c') :
    c.bus.io.serialOut <+: c'.bus.io.serialOut := updateBlock_log h

open GbVerif.SysProofs in
/-- the passage of time alone emits nothing -/
theorem time_is_silent (b b' : Bus.State) (k : Nat) (h : Sys.dev b k = .ok b') (l : List Nat) (hp : l <+: b.io.serialOut) :
    l <+: b'.io.serialOut := dev_log h hp

end GbVerif.C18
