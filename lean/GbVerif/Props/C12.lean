import GbVerif.Model.Cart
import GbVerif.Spec.Cart
import GbVerif.Proofs.NatBits
/-!
C12 — MBC1/MBC3 bank selection follows the controller's register protocol.
Refinement: for every cartridge configuration and every sequence of writes to 0x0000–0x7FFF the banks
the model exposes are those of the protocol spec.
-/
namespace GbVerif.C12
open GbVerif.Cart GbVerif.CartSpec

def ctlOf : Kind → Ctl
  | .none => .romOnly | .mbc1 => .mbc1 | .mbc3 => .mbc3

/-- the relation between a model state and the protocol registers -/
def Rel (s : State) (r : Regs) : Prop :=
  match s.kind with
  | .none => True
  | .mbc1 => s.romBank = r.lo ∧ s.ramBank = r.hi ∧ s.selectRam = (r.mode == 1) ∧ r.lo < 32 ∧ r.hi < 4 ∧ r.mode < 2
  | .mbc3 => s.romBank = r.lo ∧ s.ramBank = r.hi ∧ r.lo < 128 ∧ r.hi < 4

theorem rel_init (k : Kind) (rb mb : Nat) : Rel (init k rb mb) {} := by
  cases k <;> simp [Rel, init]

theorem and_1f (v : Nat) : v &&& 0x1f = v % 32 := Nat.and_two_pow_sub_one_eq_mod v 5
theorem and_03 (v : Nat) : v &&& 0x03 = v % 4 := Nat.and_two_pow_sub_one_eq_mod v 2
theorem and_01 (v : Nat) : v &&& 1 = v % 2 := Nat.and_two_pow_sub_one_eq_mod v 1

/-- no write touches the controller type or the bank counts -/
theorem writeRom_frame (s : State) (addr value : Nat) : (writeRom s addr value).kind = s.kind
    ∧ (writeRom s addr value).romBanks = s.romBanks ∧ (writeRom s addr value).ramBanks = s.ramBanks := by
  obtain ⟨k, _, _, _, _, _, _⟩ := s
  cases k <;> simp only [writeRom, apply_ite State.kind, apply_ite State.romBanks, apply_ite State.ramBanks,
    ite_self, and_self]

/-- one write preserves the relation (writes are to 0x0000–0x7FFF) -/
theorem rel_step (s : State) (r : Regs) (h : Rel s r) (addr value : Nat) (ha : addr < 0x8000) :
    Rel (writeRom s addr value) (applyWrite (ctlOf s.kind) r addr value) ∧ (writeRom s addr value).kind = s.kind
      ∧ (writeRom s addr value).romBanks = s.romBanks ∧ (writeRom s addr value).ramBanks = s.ramBanks := by
  refine ⟨?_, writeRom_frame s addr value⟩
  unfold Rel writeRom applyWrite ctlOf at *
  cases hk : s.kind <;> simp only [hk] at h ⊢
  · obtain ⟨h1, h2, h3, h4, h5, h6⟩ := h
    by_cases c1 : addr < 0x2000
    · simp [c1, h1, h2, h3, h4, h5, h6, show ¬ (0x2000 ≤ addr) by omega, show ¬ (0x4000 ≤ addr) by omega, show ¬ (0x6000 ≤ addr) by omega]
    · by_cases c2 : addr < 0x4000
      · simp [c1, c2, h2, h3, h5, h6, and_1f, show (0x2000 ≤ addr) by omega]; omega
      · by_cases c3 : addr < 0x6000
        · simp [c1, c2, c3, h1, h3, h4, h6, and_03, show (0x4000 ≤ addr) by omega]; omega
        · have : value % 2 < 2 := Nat.mod_lt _ (by decide)
          simp [c1, c2, c3, h1, h2, h4, h5, show (0x6000 ≤ addr ∧ addr < 0x8000) by omega]
          omega
  · obtain ⟨h1, h2, h3, h4⟩ := h
    by_cases c1 : addr < 0x2000
    · simp [c1, h1, h2, h3, h4, show ¬ (0x2000 ≤ addr) by omega, show ¬ (0x4000 ≤ addr) by omega]
    · by_cases c2 : addr < 0x4000
      · simp [c1, c2, h2, h4, NatBits.and_7f, show (0x2000 ≤ addr) by omega]; omega
      · by_cases c3 : addr < 0x6000
        · by_cases c4 : value < 4
          · simp [c1, c2, c3, c4, h1, h3, show (0x4000 ≤ addr) by omega]
          · simp [c1, c2, c3, c4, h1, h2, h3, h4, hk]
        · simp [c1, c2, c3, h1, h2, h3, h4, hk]

def InRange (ws : List (Nat × Nat)) : Prop := ∀ w ∈ ws, w.1 < 0x8000

/-- the relation holds after any sequence of writes -/
theorem rel_writes (k : Kind) (rb mb : Nat) (ws : List (Nat × Nat)) (hw : InRange ws) :
    let s := ws.foldl (fun s w => writeRom s w.1 w.2) (init k rb mb)
    Rel s (regsAfter (ctlOf k) ws) ∧ s.kind = k ∧ s.romBanks = rb ∧ s.ramBanks = mb := by
  suffices ∀ (s : State) (r : Regs), Rel s r → s.kind = k → s.romBanks = rb → s.ramBanks = mb →
      let s' := ws.foldl (fun s w => writeRom s w.1 w.2) s
      Rel s' (ws.foldl (fun r w => applyWrite (ctlOf k) r w.1 w.2) r) ∧ s'.kind = k ∧ s'.romBanks = rb ∧ s'.ramBanks = mb from
    this _ _ (rel_init k rb mb) rfl rfl rfl
  induction ws with
  | nil => intro s r h hk h1 h2; exact ⟨h, hk, h1, h2⟩
  | cons w ws ih =>
    intro s r h hk h1 h2
    have hw' : InRange ws := fun x hx => hw x (List.mem_cons_of_mem _ hx)
    have := rel_step s r h w.1 w.2 (hw w (List.mem_cons_self))
    have hk2 := this.2.1.trans hk
    rw [hk] at this
    exact ih hw' _ _ this.1 hk2 (this.2.2.1.trans h1) (this.2.2.2.trans h2)

theorem shift_or (lo hi : Nat) (h : lo < 32) : lo ||| (hi <<< 5) = hi * 32 + lo := by
  have h' : lo < 2 ^ 5 := h
  rw [Nat.shiftLeft_eq, Nat.or_comm, Nat.mul_comm, ← Nat.two_pow_add_eq_or_of_lt h' hi]

/-- banks exposed by a related state are the protocol's banks -/
theorem banks_of_rel (s : State) (r : Regs) (h : Rel s r) :
    getRomBank s = romBank (ctlOf s.kind) s.romBanks r ∧ getRamBank s = ramBank (ctlOf s.kind) s.ramBanks r := by
  unfold Rel at h
  unfold getRomBank getRamBank romBank ramBank ctlOf nz
  cases hk : s.kind <;> simp only [hk] at h ⊢
  · simp
  · obtain ⟨h1, h2, h3, h4, h5, h6⟩ := h
    have hm : r.mode = 0 ∨ r.mode = 1 := by omega
    have hnz : (if r.lo = 0 then 1 else r.lo) < 32 := by split <;> omega
    rcases hm with hm | hm
    · simp [h1, h2, h3, hm, shift_or _ _ hnz]
    · simp [h1, h2, h3, hm]
      by_cases hz : s.ramBanks = 0 <;> simp [hz, Nat.pos_of_ne_zero]
  · obtain ⟨h1, h2, h3, h4⟩ := h
    simp [h1, h2]
    by_cases hz : s.ramBanks = 0 <;> simp [hz, Nat.pos_of_ne_zero]

/-- **C12**: after any sequence of writes to 0x0000–0x7FFF, for every controller type and every
ROM/RAM bank count, the visible ROM and RAM banks are the protocol's. -/
theorem mbc_refines (k : Kind) (romBanks ramBanks : Nat) (ws : List (Nat × Nat)) (hw : InRange ws) :
    let s := ws.foldl (fun s w => writeRom s w.1 w.2) (init k romBanks ramBanks)
    getRomBank s = romBank (ctlOf k) romBanks (regsAfter (ctlOf k) ws) ∧
    getRamBank s = ramBank (ctlOf k) ramBanks (regsAfter (ctlOf k) ws) := by
  intro s
  obtain ⟨hr, hk, h1, h2⟩ := rel_writes k romBanks ramBanks ws hw
  have := banks_of_rel _ _ hr
  simp only [hk, h1, h2] at this
  exact this

/-- the visible banks always exist in the cartridge -/
theorem rom_bank_in_range (k : Kind) (romBanks ramBanks : Nat) (hb : 2 ≤ romBanks) (ws : List (Nat × Nat)) :
    getRomBank (ws.foldl (fun s w => writeRom s w.1 w.2) (init k romBanks ramBanks)) < romBanks := by
  have hinv : ∀ s : State, s.romBanks = romBanks →
      (ws.foldl (fun s w => writeRom s w.1 w.2) s).romBanks = romBanks := by
    induction ws with
    | nil => intro s h; exact h
    | cons w ws ih => intro s h; exact ih _ ((writeRom_frame s w.1 w.2).2.1.trans h)
  have h := hinv (init k romBanks ramBanks) rfl
  generalize ws.foldl (fun s w => writeRom s w.1 w.2) (init k romBanks ramBanks) = s at h
  unfold getRomBank
  cases s.kind <;> simp only [h]
  · omega
  · exact Nat.mod_lt _ (by omega)
  · exact Nat.mod_lt _ (by omega)

/-- ROM-only cartridges ignore every write -/
theorem rom_only_ignores (rb mb : Nat) (ws : List (Nat × Nat)) :
    ws.foldl (fun s w => writeRom s w.1 w.2) (init .none rb mb) = init .none rb mb := by
  induction ws with
  | nil => rfl
  | cons w ws ih => simpa [List.foldl, writeRom, init] using ih

/-- non-vacuity: an MBC1 history that selects bank 0x21 in mode 0, then mode 1 with low register 0 -/
example : let ws := [(0x2000, 0x21), (0x4000, 1), (0x6000, 1), (0x2100, 0)]
    InRange ws ∧ getRomBank (ws.foldl (fun s w => writeRom s w.1 w.2) (init .mbc1 64 4)) = 1 ∧
    getRamBank (ws.foldl (fun s w => writeRom s w.1 w.2) (init .mbc1 64 4)) = 1 := by
  refine ⟨?_, by decide, by decide⟩
  intro w hw; simp at hw; rcases hw with h | h | h | h <;> subst h <;> decide

end GbVerif.C12
