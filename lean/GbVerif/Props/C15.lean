import GbVerif.Proofs.PpuBits
import GbVerif.Proofs.PpuSel
import GbVerif.Proofs.PpuFrame
import GbVerif.Proofs.PpuCompose
/-!
C15 — the frame presented at VBlank equals the reference composition.
Property theorems only; lemmas are in `Proofs/Ppu*.lean`.
Model: `Model/Ppu.lean` (mirror of `src/devices/video/*.rs`); spec: `Spec/Frame.lean`.
In stages: (i) bit tricks and tile addressing, (ii) the object line cache, (iii) the BG line, (iv) object mixing,
(v) the window; then the line and the frame.
-/
namespace GbVerif.C15
open GbVerif.Ppu GbVerif.FrameSpec GbVerif.PpuBits GbVerif.PpuObj GbVerif.PpuSel GbVerif.PpuLine GbVerif.PpuFrame GbVerif.PpuCompose

/-- `tile::interleave` (64-bit multiply trick) is the bit interleave of its two arguments:
bit `2k` = bit `k` of `low`, bit `2k+1` = bit `k` of `high` (all 2^16 pairs: each bit plane is kernel-enumerated
over its 256 bytes, the two planes are joined by arithmetic). -/
theorem interleave_spec (low high : Nat) (hl : low < 256) (hh : high < 256) :
    interleave low high = interleaveBits low high :=
  interleave_eq low high hl hh

/-- after `c` two-bit left shifts of the 16-bit register `interleave low high`, its top two bits are the 2bpp colour
index of column `c` (0 = leftmost) of the tile row. -/
theorem interleave_pixel (low high c : Nat) (hl : low < 256) (hh : high < 256) (hc : c < 8) :
    ((interleave low high <<< (2 * c)) % 65536) / 16384 = bit low (7 - c) + 2 * bit high (7 - c) :=
  shiftedOut_interleave low high c hl hh hc

/-- the X-flip multiply trick of `get_object_row` is the bit reversal of a byte (all 256 bytes). -/
theorem flip_spec (b : Nat) (hb : b < 256) :
    flipByte b = reverseBits b ∧ ∀ k, k < 8 → bit (flipByte b) k = bit b (7 - k) :=
  ⟨(flip_eq b hb).1, (flip_eq b hb).2.2⟩

/-- `get_tile_address` after `set_lcd_control(lcdc)` is the LCDC.4 addressing of the hardware:
unsigned from 0x8000 when set, signed from 0x9000 when clear (every index, every LCDC value). -/
theorem tile_address_spec (r : Ppu.Regs) (idx : Nat) (hl : r.lcdc < 256) (hi : idx < 256) :
    getTileAddress (Cfg.ofRegs r) idx = bgTileData (toSpec r) idx :=
  tileAddr_eq r idx hi

/-! Hypotheses of the theorems from stage (ii) on: all registers are bytes (`RegsOk`), VRAM is 8 KiB and OAM 160
bytes of bytes (`IsBytes`); `mem a` is the array `a` read as the reference's memory function. -/

/-- `find_current_line_sprites` never panics and leaves in `object_line_cache[x + 8]`, for every
screen column `x`, the reference's winning opaque object pixel at (x, ly) — selection of at most ten
objects in OAM order, 8×16 tile pairs, both flips, lowest X then lowest OAM index — encoded as
`present | priority (= not BG-over-OBJ) | palette | colour`, and 0 where the reference shows no object
(`cacheByteSpec`, which is defined from `FrameSpec.winnerOf`/`selected`/`objColour` only). -/
theorem object_cache_spec (r : Ppu.Regs) (vram oam : Array Nat) (ly : Nat) (hr : RegsOk r)
    (hv : vram.size = 8192) (ho : oam.size = 160) (hvb : IsBytes vram) (hob : IsBytes oam) :
    ∃ cache, findCurrentLineSprites (Cfg.ofRegs r) vram oam ly = .ok cache ∧ cache.size = 176 ∧
      ∀ x, x < 160 → mem cache (x + 8) = cacheByteSpec (toSpec r) (mem vram) (mem oam) x ly :=
  findSprites_spec r hv ho hvb hob ly

/-- the reference's `winnerOf`, read declaratively: the object it returns has an opaque pixel at
(x, ly) and beats (lower X, or equal X and lower OAM index) every candidate that has one. -/
theorem winner_is_least (r : FrameSpec.Regs) (vram oam : Mem) (sel : List Nat) (x ly i : Nat)
    (h : winnerOf r vram oam sel x ly = some i) :
    i ∈ sel ∧ objColour r vram oam i x ly ≠ 0 ∧
      ∀ j ∈ sel, objColour r vram oam j x ly ≠ 0 →
        objX oam i < objX oam j ∨ (objX oam i = objX oam j ∧ i ≤ j) := by
  unfold winnerOf at h
  have hm := List.mem_of_find?_eq_some h
  have hp := List.find?_some h
  simp only [Bool.and_eq_true, bne_iff_ne, ne_eq, List.all_eq_true, Bool.or_eq_true, beq_iff_eq] at hp
  refine ⟨hm, hp.1, ?_⟩
  intro j hj hc
  rcases hp.2 j hj with h0 | hb
  · exact absurd h0 hc
  · unfold beats at hb
    simp only [Bool.or_eq_true, Bool.and_eq_true, decide_eq_true_eq] at hb
    exact hb

/-- non-vacuity: registers and memories meeting the hypotheses on which an object pixel is shown
(forty 8×8 objects at Y=16, X=16, all opaque: ten are selected, OAM entry 0 wins at x=8, ly=0,
with OBP1 and priority over the BG: byte 0xC7). -/
example :
    let r : Ppu.Regs := ⟨0x83, 0, 0, 0, 0, 0xe4, 0xe4, 0xe4⟩
    let vram := Array.replicate 8192 255
    let oam := Array.replicate 160 16
    RegsOk r ∧ vram.size = 8192 ∧ oam.size = 160 ∧ IsBytes vram ∧ IsBytes oam ∧
      cacheByteSpec (toSpec r) (mem vram) (mem oam) 8 0 = 0xc7 := by
  refine ⟨⟨by decide, by decide, by decide, by decide, by decide, by decide, by decide, by decide⟩,
    Array.size_replicate, Array.size_replicate, isBytes_replicate _ _ (by decide), isBytes_replicate _ _ (by decide), ?_⟩
  -- read the two memories as functions before evaluating: an access then costs a comparison, not a list walk
  have hv : mem (Array.replicate 8192 255) = fun c => if c < 8192 then 255 else 0 := funext (mem_replicate _ _)
  have ho : mem (Array.replicate 160 16) = fun c => if c < 160 then 16 else 0 := funext (mem_replicate _ _)
  rw [hv, ho]
  decide +kernel

/-! Stages (iii)–(v), the pixel pipeline:
`tpos`/`tcol`/`trow` (Proofs/PpuLine) say where pixel `i` of the line lies: position in its tile,
map column, fetched row register — of the window if the window is enabled, `ly ≥ WY` and
`i + 7 ≥ WX`, of the scrolled background otherwise.  `LineInv … i s` is the loop invariant on the
pixel index (line-buffer prefix `[0, i)` equals the reference, every other buffer cell untouched,
object-cache read position `8 + i`, configuration unchanged) and `Pipe … i s t` its shift-register
part (`tile_x = t`, register = rest of the current tile row, `next_cached_tile_x` = next column). -/

/-- (iii)+(v) BG and window: the colour index the shift register holds for pixel `i` is the
reference's BG/window colour at (i, ly) — every SCX/SCY (fine scroll, wrap at 256), both maps,
both tile-data modes, window left of / inside / right of the screen (all WX, WY). -/
theorem bg_window_colour_spec (r : Ppu.Regs) (vram : Array Nat) (ly i : Nat) (hr : RegsOk r)
    (hvb : IsBytes vram) (hly : ly < 144) :
    ((trow r vram ly i <<< (2 * tpos r ly i)) % 65536) / 16384 = bgWinColour (toSpec r) (mem vram) i ly :=
  shifted_spec r vram hvb ly i (by omega)

/-- (iv) object mixing: given the object-cache byte of stage (ii) and the BG/window colour index,
the pipeline's choice (object present ∧ (priority ∨ BG colour 0) → object palette, else BGP) is
the reference pixel, for all BGP/OBP0/OBP1. -/
theorem mixing_spec (r : Ppu.Regs) (vram oam : Mem) (x ly : Nat) :
    mixM (Cfg.ofRegs r) (cacheByteSpec (toSpec r) vram oam x ly) (bgWinColour (toSpec r) vram x ly) =
      .ok (FrameSpec.pixel (toSpec r) vram oam x ly) :=
  mix_spec r vram oam x ly

/-- one pixel of the mode-3 loop preserves the invariant (no panic; pixel `i` = reference pixel;
shift, window switch at `i + 1 + 7 = WX`, tile fetch when the tile is used up). -/
theorem pixel_step_spec (r : Ppu.Regs) (vram oam : Array Nat) (ly : Nat) (base : State) (i t : Nat) (s : State)
    (hr : RegsOk r) (hv : vram.size = 8192) (hvb : IsBytes vram) (hly : ly < 144)
    (hco : CacheOk r vram oam ly base.objCache) (hi : i < 160)
    (inv : LineInv r vram oam ly base i s) (pipe : Pipe r vram ly i s t) :
    ∃ t' s', pixelStep (active r ly) vram t i s = .ok (t', s') ∧ LineInv r vram oam ly base (i + 1) s' ∧
      (i + 1 < 160 → Pipe r vram ly (i + 1) s' t') :=
  pixelStep_inv hv hvb hly hco hi inv pipe

/-- the mode 2→3 set-up establishes the invariant at pixel 0: window first tile shifted by `7 − WX`
pixels when the window is on the line and WX ≤ 7, otherwise the BG tile at SCX/8 shifted by the SCX
fine scroll. -/
theorem setup_spec (r : Ppu.Regs) (vram oam : Array Nat) (ly : Nat) (s0 : State) (hr : RegsOk r)
    (hv : vram.size = 8192) (hvb : IsBytes vram) (hc : s0.cfg = Cfg.ofRegs r) (hl : s0.line = ly)
    (hw : s0.writing.size = 23040) (hp : s0.objPix = 8) :
    ∃ s', enterMode3 s0 vram = .ok s' ∧ LineInv r vram oam ly s0 0 s' ∧ Pipe r vram ly 0 s' (tpos r ly 0) :=
  enterMode3_inv vram oam r hv hvb ly s0 hc hl hw hp

/-- `line_spec`: from the entry of mode 2 of line `ly` (`LineStart`: the object cache is the one
`find_current_line_sprites` produced, cursor 8) the next 113 ticks — 19 idle, set-up, 40 × 4 pixels,
6 idle, switch to mode 0, 46 idle — do not panic and leave the reference line in the writing buffer
(`LineEnd.done`: all 160 pixels equal `FrameSpec.pixel`; `LineEnd.other`: no other cell changed;
the visible buffer is untouched). -/
theorem line_spec (r : Ppu.Regs) (vram oam : Array Nat) (ly : Nat) (s : State) (hC : Contents r vram oam)
    (hly : ly < 144) (h : LineStart r vram oam ly s) :
    ∃ s', runTicks vram oam 113 s = .ok s' ∧ LineEnd r vram oam ly s s' :=
  line_ticks hC hly h

/-- `frame_spec`: for all VRAM, OAM and register contents (bytes; LCDC bits 1–6 free) held constant,
the frame the harness observes after power-on — 1140 ticks of VBlank, 144 lines, buffer swap at VBlank
entry — is the reference frame, and nothing panics. -/
theorem frame_spec (r : Ppu.Regs) (vram oam : Array Nat) (hC : Contents r vram oam) :
    renderFrame r vram oam = .ok (FrameSpec.frame (toSpec r) (mem vram) (mem oam)) := by
  obtain ⟨s', h1, _, _, h4⟩ := first_frame hC
  rw [renderFrame, h1, ← presents_eq h4]; rfl

/-- `frame_spec` for every later frame on the same machine (stream `c15.seq`): from any VBlank entry
whose configuration came from the setters (`Cfg.ofRegs r0`), with the registers set again and VRAM/OAM
replaced `k ≤ 1139` ticks into the VBlank, the next presented frame is the reference frame of the new
contents — whatever the previous frame left in the object line cache, its cursor, the window line, the
tile cache or the two buffers — and the machine is again at a VBlank entry of the same kind. -/
theorem frame_spec_next (r r0 : Ppu.Regs) (vramOld oamOld vram oam : Array Nat) (s : State) (k : Nat)
    (hC : Contents r vram oam) (hE : VBlankEntry s) (hc : s.cfg = Cfg.ofRegs r0) (hk : k ≤ 1139) :
    ∃ s', renderNext s r vramOld oamOld vram oam k = .ok s' ∧
      s'.visible = FrameSpec.frame (toSpec r) (mem vram) (mem oam) ∧ VBlankEntry s' ∧ s'.cfg = Cfg.ofRegs r := by
  obtain ⟨s', h1, h2, h3, h4⟩ := next_frame vramOld oamOld hC hE hc k hk
  exact ⟨s', h1, presents_eq h4, h2, h3⟩

/-- the power-on state is a VBlank entry in the sense of `frame_spec_next`, with the configuration the setters give -/
theorem power_on_entry (r : Ppu.Regs) : VBlankEntry (powerOn (Cfg.ofRegs r)) ∧ (powerOn (Cfg.ofRegs r)).cfg = Cfg.ofRegs r :=
  ⟨powerOn_entry _, rfl⟩

/-- non-vacuity of `pixel_step_spec` (a mode-3 entry state meeting `LineInv`/`Pipe`/`CacheOk`) and of
`Contents` (hypothesis of `line_spec`, `frame_spec`, `frame_spec_next`): BG only, SCX = 3, SCY = 5, VRAM all 0xFF -/
example :
    let r : Ppu.Regs := ⟨0x91, 3, 5, 0, 0, 0xe4, 0xe4, 0xe4⟩
    let vram := Array.replicate 8192 255
    let oam := Array.replicate 160 0
    let s : State := { cfg := Cfg.ofRegs r, visible := Array.replicate 23040 0, writing := Array.replicate 23040 0,
                       mode := .m3, dots := 0, line := 0, nextTileX := (tcol r 0 0 + 1) % 32,
                       tileCache := (trow r vram 0 0 <<< (2 * tpos r 0 0)) % 65536,
                       objCache := Array.replicate 176 0, objPix := 8, windowLine := none }
    Contents r vram oam ∧ CacheOk r vram oam 0 s.objCache ∧ s.mode = .m3 ∧ s.dots = 0 ∧
      LineInv r vram oam 0 s 0 s ∧ Pipe r vram 0 0 s (tpos r 0 0) := by
  intro r vram oam s
  have hr : RegsOk r := ⟨by decide, by decide, by decide, by decide, by decide, by decide, by decide, by decide⟩
  have hvb : IsBytes vram := isBytes_replicate _ _ (by decide)
  have hob : IsBytes oam := isBytes_replicate _ _ (by decide)
  refine ⟨⟨hr, by simp [vram], by simp [oam], hvb, hob⟩, ?_, rfl, rfl, ?_, ⟨rfl, rfl, rfl⟩⟩
  · obtain ⟨cache, h1, h2, h3⟩ := findSprites_spec r (by simp [vram]) (by simp [oam]) hvb hob 0
    have hoff : (Cfg.ofRegs r).objectEnabled = false := by decide +kernel
    have : findCurrentLineSprites (Cfg.ofRegs r) vram oam 0 = .ok (Array.replicate 176 0) := by
      simp [findCurrentLineSprites, hoff, pure, Except.pure]
    rw [this] at h1
    cases h1
    exact ⟨h2, h3⟩
  · refine ⟨rfl, rfl, by simp [s], rfl, rfl, by decide +kernel, rfl, rfl, rfl, ?_, fun _ _ => rfl, Nat.mod_lt _ (by decide)⟩
    intro j hj; omega

/-- non-vacuity of `line_spec`: a state meeting `LineStart` (objects disabled, so the line cache is clear) -/
example :
    let r : Ppu.Regs := ⟨0x91, 3, 5, 0, 0, 0xe4, 0xe4, 0xe4⟩
    let vram := Array.replicate 8192 255
    let oam := Array.replicate 160 0
    LineStart r vram oam 7 { powerOn (Cfg.ofRegs r) with mode := .m2, line := 7, objPix := 8 } := by
  intro r vram oam
  have hoff : (Cfg.ofRegs r).objectEnabled = false := by decide +kernel
  refine ⟨rfl, rfl, rfl, rfl, by simp [powerOn], by simp [powerOn], ?_, rfl⟩
  simp [findCurrentLineSprites, hoff, pure, Except.pure, powerOn]

end GbVerif.C15
