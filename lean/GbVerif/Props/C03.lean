import GbVerif.Model.Cache
import GbVerif.Proofs.CartFrame
import GbVerif.Proofs.BlockWalk
/-!
C03 — the translation cache is transparent, including across ROM bank switches.
The cache model abstracts a translation to the guest bytes it was made from; transparency is then:
whatever the history of block executions and bank switches, the block handed to the CPU for (bank, ip) is the
translation of the bytes *currently* mapped at ip — the same block a cold cache would produce.
-/
namespace GbVerif.C03
open GbVerif.Cache

/-- coherence invariant: every cached block is the translation of the bank it is keyed under -/
def Coherent (rom : Nat → Nat) (c : State) : Prop :=
  (∀ k b, (k, b) ∈ c.low → ∃ a, a < 0x4000 ∧ Cpu.canDynarec a = true ∧ k = key 0 a ∧ ∀ bank, b = translate rom bank a) ∧
  (∀ k b, (k, b) ∈ c.high → ∃ bank a, 0x4000 ≤ a ∧ a < 0x10000 ∧ k = key bank a ∧ b = translate rom bank a)

theorem coherent_empty (rom : Nat → Nat) : Coherent rom {} := by
  constructor <;> intro k b h <;> cases h

theorem lookup_mem {α : Type} [BEq α] [LawfulBEq α] {β : Type} (l : List (α × β)) (k : α) (v : β) (h : l.lookup k = some v) :
    (k, v) ∈ l := by
  induction l with
  | nil => simp [List.lookup] at h
  | cons p l ih =>
    obtain ⟨k', v'⟩ := p
    simp only [List.lookup] at h
    split at h
    · rename_i heq
      have : k = k' := by simpa using heq
      cases h; subst this; exact List.mem_cons_self
    · exact List.mem_cons_of_mem _ (ih h)

theorem key_inj (b1 a1 b2 a2 : Nat) (h1 : a1 < 65536) (h2 : a2 < 65536) (h : key b1 a1 = key b2 a2) : b1 = b2 ∧ a1 = a2 := by
  unfold key at h; omega

/-- translations of bank-0 code do not depend on the switchable bank -/
def LowIndependent (rom : Nat → Nat) : Prop :=
  ∀ a, a < 0x4000 → Cpu.canDynarec a = true → ∀ b1 b2, translate rom b1 a = translate rom b2 a

/-- a block that starts below 0x3FFE in bank 0 never reads a byte at or above 0x4000: it ends before the last two
bytes of the region, before the other region, and every instruction is at most three bytes long -/
theorem sourceBytes_indep (rom : Nat → Nat) (hrom : ∀ i, rom i < 256) (a : Nat) (ha' : a < 0x3ffe) (b1 b2 : Nat) :
    ∀ fuel index, sourceBytes rom b1 a index fuel = sourceBytes rom b2 a index fuel := by
  intro fuel
  induction fuel with
  | zero => intro index; rfl
  | succ fuel ih =>
    intro index
    unfold sourceBytes
    by_cases hm : Cpu.romBlockMustEnd a index = true
    · simp [hm]
    · simp only [hm, Bool.false_eq_true, if_false]
      have hi : index < 0x3ffe := by
        simp only [Cpu.romBlockMustEnd, Cpu.canDynarec, Bool.and_eq_true, Bool.or_eq_true, Bool.not_eq_true',
          bne_iff_ne, ne_eq, decide_eq_false_iff_not, BusProofs.and_3fff, Bool.and_eq_false_iff] at hm
        omega
      have hr : ∀ k, k ≤ 2 → ∀ b, romAt rom b (index + k) = rom (index + k) := by
        intro k hk b; unfold romAt; simp [show index + k < 0x4000 by omega]
      have h0 := hr 0 (by omega); have h1 := hr 1 (by omega); have h2 := hr 2 (by omega)
      simp only [Nat.add_zero] at h0
      rw [h0 b1, h0 b2, h1 b1, h1 b2, h2 b1, h2 b2]
      have hl := CoreProofs.decode_len_le_3 (rom index) (hrom _) (rom (index + 1)) (rom (index + 2)) (hrom _)
      generalize hd' : Gen.decode (rom index) (rom (index + 1)) (rom (index + 2)) = d at hl
      obtain ⟨op, len, clk⟩ := d
      simp only at hl ⊢
      have hb : (List.range len).map (fun k => romAt rom b1 (index + k)) = (List.range len).map (fun k => romAt rom b2 (index + k)) := by
        apply List.map_congr_left
        intro k hk
        have : k < len := List.mem_range.mp hk
        rw [hr k (by omega) b1, hr k (by omega) b2]
      rw [hb, ih]

theorem low_independent (rom : Nat → Nat) (hrom : ∀ i, rom i < 256) : LowIndependent rom := by
  intro a ha hd b1 b2
  have ha' : a < 0x3ffe := by
    simp only [Cpu.canDynarec, Bool.and_eq_true, decide_eq_true_eq, BusProofs.and_3fff] at hd
    omega
  show Block.mk _ = Block.mk _
  rw [sourceBytes_indep rom hrom a ha' b1 b2]

/-- **transparency step**: from a coherent cache, the block fetched for the current (bank, ip) is the translation of the
bytes currently mapped there, hit or miss, and the cache stays coherent -/
theorem fetch_transparent (rom : Nat → Nat) (hlow : LowIndependent rom) (c : State) (hc : Coherent rom c)
    (bank ip : Nat) (hip : ip < 0x8000) (hdyn : Cpu.canDynarec ip = true) :
    (fetchBlock rom c bank ip).2.1 = translate rom bank ip ∧ Coherent rom (fetchBlock rom c bank ip).1 := by
  unfold fetchBlock
  simp only []
  split
  · rename_i b hl
    simp only
    refine ⟨?_, ⟨hc.1, hc.2⟩⟩
    unfold lookup at hl
    by_cases hlo : ip < 0x4000
    · simp only [hlo, if_true] at hl
      obtain ⟨a, ha, -, hk, hb⟩ := hc.1 _ _ (lookup_mem _ _ _ hl)
      obtain ⟨-, rfl⟩ := key_inj 0 ip 0 a (by omega) (by omega) hk
      exact hb bank
    · simp only [hlo, if_false] at hl
      obtain ⟨bank', a, ha1, ha2, hk, hb⟩ := hc.2 _ _ (lookup_mem _ _ _ hl)
      obtain ⟨rfl, rfl⟩ := key_inj bank ip bank' a (by omega) ha2 hk
      exact hb
  · simp only
    refine ⟨trivial, ?_⟩
    unfold Cache.insert
    by_cases hlo : ip < 0x4000
    · simp only [hlo, if_true]
      refine ⟨?_, hc.2⟩
      intro k b hm
      rcases List.mem_cons.mp hm with h | h
      · cases h; exact ⟨ip, hlo, hdyn, rfl, fun bank' => hlow ip hlo hdyn bank bank'⟩
      · exact hc.1 k b h
    · simp only [hlo, if_false]
      refine ⟨hc.1, ?_⟩
      intro k b hm
      rcases List.mem_cons.mp hm with h | h
      · cases h; exact ⟨bank, ip, by omega, by omega, rfl, rfl⟩
      · exact hc.2 k b h

/-- a history: each step fetches the block for some (bank, ip) (the bank being whatever the MBC maps at that time) -/
def runHistory (rom : Nat → Nat) (c : State) : List (Nat × Nat) → State × List Block
  | [] => (c, [])
  | (bank, ip) :: rest =>
    let (c', b, _) := fetchBlock rom c bank ip
    let (c'', bs) := runHistory rom c' rest
    (c'', b :: bs)

/-- **C03**: for every history of (bank, ip) fetches — any interleaving of block executions and bank switches, any cache
age — the warm cache hands out exactly the blocks a cache emptied before every fetch would: the translations of the
bytes currently mapped. -/
theorem warm_eq_cold (rom : Nat → Nat) (hrom : ∀ i, rom i < 256) (h : List (Nat × Nat))
    (hh : ∀ p ∈ h, p.2 < 0x8000 ∧ Cpu.canDynarec p.2 = true)
    (c : State) (hc : Coherent rom c) :
    (runHistory rom c h).2 = h.map fun p => translate rom p.1 p.2 := by
  induction h generalizing c with
  | nil => rfl
  | cons p rest ih =>
    obtain ⟨bank, ip⟩ := p
    have hip := hh (bank, ip) List.mem_cons_self
    have ht := fetch_transparent rom (low_independent rom hrom) c hc bank ip hip.1 hip.2
    simp only [runHistory, List.map_cons]
    rw [ih (fun q hq => hh q (List.mem_cons_of_mem _ hq)) _ ht.2]
    rw [ht.1]

/-- non-vacuity: revisit after a switch and after switching back — three fetches at the same address, two banks -/
example (rom : Nat → Nat) (hrom : ∀ i, rom i < 256) :
    (runHistory rom {} [(1, 0x4000), (2, 0x4000), (1, 0x4000)]).2 =
      [translate rom 1 0x4000, translate rom 2 0x4000, translate rom 1 0x4000] :=
  warm_eq_cold rom hrom _ (by intro p hp; simp at hp; rcases hp with h | h | h <;> subst h <;> decide) {} (coherent_empty rom)

/-! Inside a block.
`warm_eq_cold` is about what is handed to the CPU when a block is *entered*.  The statement of C03 also covers every
program counter inside the block: the bytes translated at entry must still be the bytes mapped when each instruction is
reached.  That holds exactly as long as the block itself does not store below 0x8000 (the cartridge's registers): -/

open GbVerif.CoreProofs in
/-- **block_bank_stable_partial**: a block whose stores all go to 0x8000 and above (its run on the bus with stores below
0x8000 forbidden succeeds) runs the same on the real bus, and the cartridge state — so the ROM bank mapped at
0x4000–0x7FFF — in front of every instruction fetch of the block, and after it, is the one at block entry: every
instruction the interpreter executes in the block is fetched from the bank the translation was made from.
Partial: blocks that do store below 0x8000 from the switchable bank are the recorded finding (the translation goes on
in the old bank); for blocks located below 0x4000 such a store is harmless because they end before 0x4000
(`low_independent`). -/
theorem block_bank_stable_partial (r : Interp.Regs) (s : Bus.State) (fuel : Nat)
    (res : Interp.Regs × Bus.State × Nat) (tr : List Cart.State)
    (h : runCodeBlockAuxHi r.ip r s Interp.STATUS_NORMAL fuel = .ok (res, tr)) :
    Cpu.runCodeBlock r s fuel = .ok res ∧
    (∀ c ∈ tr, Cart.getRomBank c = Cart.getRomBank s.cart) ∧
    Cart.getRomBank res.2.1.cart = Cart.getRomBank s.cart := by
  obtain ⟨h1, h2, h3⟩ := runCodeBlockAuxHi_spec r.ip fuel r s _ res tr h
  exact ⟨h1, fun c hc => by rw [h2 c hc], by rw [h3]⟩

open GbVerif.CoreProofs GbVerif.BusProofs in
/-- **interp_walk_is_translation_partial** (the interpreter runs what the translator translated): for a block at a
translatable ROM address whose stores all go to 0x8000 and above, (1) the interpreter's `run_code_block` gives the
result of the guarded walk, and (2) the guest bytes it decoded, instruction by instruction, are exactly the bytes
`translate_code_block` consumes for that address under the bank mapped at entry — the same instruction boundaries and the
same block end.  So the cached translation is a translation of what the interpreter executes at *every* program counter
of the block, not only at its first.  Partial for the same reason as `block_bank_stable_partial`. -/
theorem interp_walk_is_translation_partial (r : Interp.Regs) (s : Bus.State) (res : Interp.Regs × Bus.State × Nat) (bytes : List Nat)
    (wf : BusProofs.WF s) (hrom : ∀ i, s.rom i < 256) (hd : Cpu.canDynarec r.ip = true)
    (h : walkHi r.ip r s Interp.STATUS_NORMAL 0x4000 = .ok (res, bytes)) :
    Cpu.runCodeBlock r s 65536 = .ok res ∧ translate s.rom (Cart.getRomBank s.cart) r.ip = ⟨bytes⟩ := by
  constructor
  · have := walkHi_real r.ip 0x4000 r s _ res bytes h
    have h2 := runCodeBlockAux_fuel r.ip 0x4000 49152 r s _ res this
    have e : (0x4000 : Nat) + 49152 = 65536 := by decide
    rw [e] at h2
    exact h2
  · have hs : r.ip < 0x8000 := (canDynarec_lt hd).1
    have := walkHi_source r.ip hs hd 0x4000 r s _ res bytes wf hrom h
    show Block.mk _ = Block.mk _
    rw [this]

/-- a bus for the examples: MBC1, 4 banks; bank 1 holds `LD (0xC000),A ; INC A ; HALT` at 0x4000,
bank 2 holds `LD (0x2100),A ; INC A ; HALT` at 0x4000 -/
def exBus : Bus.State :=
  Bus.create .mbc1 4 0 (fun i =>
    if i = 0x4000 then 0xea else if i = 0x4001 then 0x00 else if i = 0x4002 then 0xc0 else if i = 0x4003 then 0x3c else if i = 0x4004 then 0x76
    else if i = 0x8000 then 0xea else if i = 0x8001 then 0x00 else if i = 0x8002 then 0x21 else if i = 0x8003 then 0x3c else if i = 0x8004 then 0x76
    else 0)

open GbVerif.CoreProofs in
/-- non-vacuity: a banked block with a store to work RAM satisfies the hypothesis (three fetches, all under bank 1) -/
example : (runCodeBlockAuxHi 0x4000 { ip := 0x4000, af := 0x0300 } exBus Interp.STATUS_NORMAL 16).toOption.map
    (fun x => (x.1.1.ip, x.2.map Cart.getRomBank)) = some (0x4005, [1, 1, 1]) := by decide +kernel

open GbVerif.CoreProofs in
/-- non-vacuity: the bank-1 block of `exBus` — the interpreter's walk yields its five guest bytes, which are the translation's -/
example : (walkHi 0x4000 { ip := 0x4000, af := 0x0300 } exBus Interp.STATUS_NORMAL 0x4000).toOption.map (fun x => x.2) =
    some [0xea, 0x00, 0xc0, 0x3c, 0x76] ∧ (translate exBus.rom 1 0x4000).src = [0xea, 0x00, 0xc0, 0x3c, 0x76] := by
  decide +kernel

open GbVerif.CoreProofs in
/-- the boundary is sharp: the same block shape in bank 2 stores to 0x2100; the guarded run refuses it, and on the real
bus the bank mapped under the program counter changes in mid-block (A = 3: bank 3 after the first instruction) -/
example :
    let s2 : Bus.State := { exBus with cart := Cart.writeRom exBus.cart 0x2100 2 }
    (runCodeBlockAuxHi 0x4000 { ip := 0x4000, af := 0x0300 } s2 Interp.STATUS_NORMAL 16).toOption.isNone = true ∧
    Cart.getRomBank s2.cart = 2 ∧
    (Cpu.runNextOp { ip := 0x4000, af := 0x0300 } s2).toOption.map (fun x => Cart.getRomBank x.2.1.cart) = some 3 := by
  decide +kernel

end GbVerif.C03
