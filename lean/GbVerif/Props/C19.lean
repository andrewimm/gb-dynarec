import GbVerif.Model.Header
import GbVerif.Spec.Header
import GbVerif.Proofs.Header
/-!
C19 — ROM validation.  A file is accepted only with a matching header checksum; accepted files get the ROM size,
RAM size and controller of the cartridge-header standard; too short / corrupt / truncated / unsupported files are
rejected at load time, so that no ROM index the bus can form lies outside the mapping or the file.
Property theorems only (lemmas in `Proofs/Header.lean`; tables in `Gen/HeaderTables.lean`, regenerated from cart.rs).
-/
namespace GbVerif.C19
open GbVerif.Header GbVerif.Gen.HeaderTables GbVerif.HeaderSpec GbVerif.HeaderProofs

/-- `valid_checksum` holds exactly when the 25 bytes at header offsets 0x34..0x4C (file 0x134..0x14C), each plus
one, and the checksum byte add up to 0 modulo 256 — for every header content (fold lemma, no enumeration). -/
theorem checksum_spec (h : Header) (hc : h.byte 0x4d < 256) :
    validChecksum h = true ↔
      (((List.range' 0x34 25).map (fun i => h.byte i + 1)).sum + h.byte 0x4d) % 256 = 0 := by
  have e : List.range' checksumLo (checksumHi - checksumLo) = List.range' 0x34 25 := by decide
  have o : offChecksum = 0x4d := rfl
  obtain ⟨h1, h2⟩ := checkLoop_sum h (List.range' 0x34 25) 0 (by omega)
  simp only [validChecksum, checkValue, e, o, beq_iff_eq]
  constructor <;> intro hh <;> omega

/-- the model's checksum test on the header read from a file is the standard's test on that file
(`x = 0; for i in 0x134..=0x14C: x = x - rom[i] - 1; x == rom[0x14D]`) -/
theorem checksum_file_spec (f : RomFile) : validChecksum (headerOf f) = checksumOk f.byte := by
  have e : (List.range' checksumLo (checksumHi - checksumLo)).map (headerFileOffset + ·)
      = List.range' 0x134 (0x14C + 1 - 0x134) := by decide
  simp only [validChecksum, checkValue, checkLoop_shift, e, checksumOk, headerChecksum]
  rfl

/-- The regenerated tables are the cartridge-header standard, for all 256 codes: a ROM-size code of the standard
gives its bank count and `banks * 16 KiB` bytes, a RAM-size code its byte count, and a type byte the code accepts
names an implemented controller of the standard, with the matching cartridge state.  Codes outside the standard
get the smallest cartridge (2 banks, no RAM). -/
theorem sizes_spec (code : Nat) (h : code < 256) :
    (∀ n, romBanks? code = some n → romBanks code = n ∧ romBytes? code = some (romBanks code * romBankBytes)) ∧
    (romBanks? code = none → romBanks code = 2) ∧
    (∀ n, HeaderSpec.ramBytes? code = some n → ramBytes code = n) ∧
    (HeaderSpec.ramBytes? code = none → ramBytes code = 0) ∧
    (∀ k, cartKind code = some k → ∃ c, controller? code = some c ∧ implemented c = true ∧ kindCode c = k) := by
  have t := tablesOk_all code h
  simp only [tablesOk, Bool.and_eq_true] at t
  obtain ⟨⟨t1, t2⟩, t3⟩ := t
  refine ⟨?_, ?_, ?_, ?_, ?_⟩
  · intro n hn; rw [hn] at t1; simpa using t1
  · intro hn; rw [hn] at t1; simp at t1; exact t1.1
  · intro n hn; rw [hn] at t2; simpa using t2
  · intro hn; rw [hn] at t2; simpa using t2
  · intro k hk; rw [hk] at t3
    cases hc : controller? code with
    | none => rw [hc] at t3; cases t3
    | some c => rw [hc] at t3; simp at t3; exact ⟨c, rfl, t3.1, t3.2⟩

/-- What acceptance implies: the file opened, holds a whole header with a matching checksum, the configuration is
read off the regenerated tables, and the mapping is not longer than the file. -/
theorem accepted_spec (f : RomFile) (cfg : Config) (h : loadRom f = .accepted cfg) :
    f.opens = true ∧ headerEnd ≤ f.len ∧ checksumOk f.byte = true ∧
    cartKind (f.byte 0x147) = some cfg.kind ∧ cfg.romBanks = romBanks (f.byte 0x148) ∧
    cfg.mappedLen = cfg.romBanks * 0x4000 ∧ cfg.ramBytes = ramBytes (f.byte 0x149) ∧ cfg.mappedLen ≤ f.len := by
  unfold loadRom at h
  simp only [] at h
  repeat' split at h
  all_goals try (cases h; done)
  rename_i hopen hseek hlen hchk hsize _ k hk
  have hoff : headerFileOffset + headerSize = headerEnd := by decide
  injection h with h
  subst h
  rw [checksum_file_spec] at hchk
  refine ⟨by simpa using hopen, by omega, by simpa using hchk, hk, rfl, rfl, rfl, ?_⟩
  simp only [romSizeBytes] at hsize ⊢
  omega

/-- Everything the property says must be rejected is rejected by `load_rom`: a file too short for a header, a
wrong header checksum, an unsupported cartridge type, a file smaller than its declared ROM size. -/
theorem reject_spec (f : RomFile) (h : mustReject f.byte f.len = true) : ∀ cfg, loadRom f ≠ .accepted cfg := by
  intro cfg hacc
  obtain ⟨_, hlen, hchk, hk, hr, hm, _, hsize⟩ := accepted_spec f cfg hacc
  simp only [mustReject, Bool.or_eq_true, decide_eq_true_eq, Bool.not_eq_true'] at h
  rcases h with ((h | h) | h) | h
  · omega
  · rw [hchk] at h; cases h
  · rw [cartKind_supported _ _ hk] at h; cases h
  · cases hb : romBytes? (f.byte 0x148) with
    | none => rw [hb] at h; cases h
    | some n =>
      have e : n = _ * 0x4000 := romBytes_eq _ _ hb
      simp only [hb, decide_eq_true_eq] at h
      rw [hm, hr] at hsize
      omega

/-- Accepted files get the standard's sizes and controller (header bytes are bytes). -/
theorem accepted_tables (f : RomFile) (cfg : Config) (h : loadRom f = .accepted cfg)
    (hb : ∀ i, f.byte i < 256) :
    (∀ n, romBanks? (f.byte 0x148) = some n → cfg.romBanks = n ∧ romBytes? (f.byte 0x148) = some cfg.mappedLen) ∧
    (∀ n, HeaderSpec.ramBytes? (f.byte 0x149) = some n → cfg.ramBytes = n) ∧
    (∃ c, controller? (f.byte 0x147) = some c ∧ implemented c = true ∧ kindCode c = cfg.kind) := by
  obtain ⟨_, _, _, hk, hr, hm, hram, _⟩ := accepted_spec f cfg h
  have s1 := sizes_spec _ (hb 0x148)
  have s2 := sizes_spec _ (hb 0x149)
  have s3 := sizes_spec _ (hb 0x147)
  refine ⟨?_, ?_, s3.2.2.2.2 _ hk⟩
  · intro n hn
    obtain ⟨a, b⟩ := s1.1 n hn
    refine ⟨by omega, ?_⟩
    rw [b, hm, hr]; rfl
  · intro n hn; rw [hram]; exact s2.2.2.1 n hn

/-- Accepted ⇒ the mapping fits in the file and every ROM index `memory_read_byte` can form for a CPU address
below 0x8000 and a bank below the declared bank count lies inside the mapping: no access beyond the file. -/
theorem accepted_safe (f : RomFile) (cfg : Config) (h : loadRom f = .accepted cfg) :
    cfg.mappedLen ≤ f.len ∧
    ∀ bank addr, bank < cfg.romBanks → addr < 0x8000 → busRomIndex bank addr < cfg.mappedLen := by
  obtain ⟨_, _, _, _, hr, hm, _, hle⟩ := accepted_spec f cfg h
  refine ⟨hle, ?_⟩
  intro bank addr hb ha
  have h2 := romBanks_pos (f.byte 0x148)
  unfold busRomIndex
  split
  · omega
  · have : addr &&& 0x3fff ≤ 0x3fff := Nat.and_le_right
    omega

/-- Conversely the loader is not vacuous: a file that opens, holds a header with a matching checksum and a type
the code supports, and is at least as long as its declared ROM size, is accepted with the table configuration. -/
theorem accept_complete (f : RomFile) (k : Nat) (ho : f.opens = true) (hl : headerEnd ≤ f.len)
    (hc : checksumOk f.byte = true) (hk : cartKind (f.byte 0x147) = some k)
    (hs : romBanks (f.byte 0x148) * 0x4000 ≤ f.len) :
    loadRom f = .accepted ⟨k, romBanks (f.byte 0x148), romBanks (f.byte 0x148) * 0x4000, ramBytes (f.byte 0x149)⟩ := by
  have hoff : headerFileOffset + headerSize = headerEnd := by decide
  have e1 : cartState (headerOf f) = some k := hk
  have e2 : ¬ f.len < headerFileOffset + headerSize := by omega
  have e3 : ¬ f.len < romSizeBytes (headerOf f) := by
    have : romSizeBytes (headerOf f) = romBanks (f.byte 0x148) * 0x4000 := rfl
    omega
  rw [← checksum_file_spec] at hc
  unfold loadRom
  simp only [ho, hc, e1, e2, e3, seekPos]
  rfl

/-! The title printed at load time.
A file's eleven title bytes are arbitrary.  `get_title` (since /repo 7171639: `from_utf8_lossy`, trailing NULs trimmed)
is a total function of them — no title can make the load fail — and `title_bytes` / `title_ascii` say what it yields. -/

/-- the title bytes of a header -/
def titleField (h : Header) : List Nat := (List.range 11).map fun i => h.byte (0x34 + i)

/-- an ASCII title is shown as it is in the file, trailing NULs dropped -/
theorem title_ascii (h : Header) (ha : ∀ i, i < 11 → h.byte (0x34 + i) < 0x80) : titleText h = trimNul (titleField h) := by
  unfold titleText
  rw [utf8Lossy_ascii]
  · rfl
  · intro b hb
    obtain ⟨i, hi, e⟩ := List.mem_map.mp hb
    rw [← e]; exact ha i (List.mem_range.mp hi)

/-- whatever the title bytes are, every byte of the text `get_title` returns is one of the eleven title bytes or a byte
of U+FFFD — nothing else of the header or of memory gets into the Loading line -/
theorem title_bytes (h : Header) : ∀ x ∈ titleText h, x ∈ titleField h ∨ x ∈ [0xef, 0xbf, 0xbd] := by
  intro x hx
  exact lossyAux_bytes _ _ x (mem_trimNul hx)

/-- non-vacuity: a lone continuation byte, a cut-off three-byte sequence and a UTF-16 surrogate become U+FFFD; "É" stays -/
example : utf8Lossy [0x80] = [0xef, 0xbf, 0xbd] ∧ utf8Lossy [0x41, 0xc3, 0x89, 0x42] = [0x41, 0xc3, 0x89, 0x42] ∧
    utf8Lossy [0xe2, 0x82] = [0xef, 0xbf, 0xbd] ∧
    utf8Lossy [0xed, 0xa0, 0x80] = [0xef, 0xbf, 0xbd, 0xef, 0xbf, 0xbd, 0xef, 0xbf, 0xbd] := by decide

/-- 64 KiB MBC1 image: type 0x01, ROM code 0x01, all other header bytes 0, checksum 0xE5 -/
def exFile (len : Nat) : RomFile :=
  ⟨true, len, fun i => if i = 0x147 then 1 else if i = 0x148 then 1 else if i = 0x14D then 0xE5 else 0⟩

example : loadRom (exFile 0x10000) = .accepted ⟨1, 4, 0x10000, 0⟩ := by decide +kernel
example : validChecksum (headerOf (exFile 0x10000)) = true ∧ (headerOf (exFile 0x10000)).byte 0x4d < 256 := by decide +kernel
-- one byte short of the declared 64 KiB: must be rejected, and is
example : mustReject (exFile 0xFFFF).byte 0xFFFF = true ∧ loadRom (exFile 0xFFFF) = .rejectedMsg .truncated := by decide +kernel
example : mustReject (exFile 0x14F).byte 0x14F = true ∧ loadRom (exFile 0x14F) = .rejectedMsg .unableToReadHeader := by decide +kernel
example : loadRom ⟨true, 0x10000, fun i => if i = 0x147 then 1 else if i = 0x148 then 1 else 0⟩ = .rejectedMsg .corrupt := by
  decide +kernel
-- MBC5 (0x19): valid checksum (0xCD), unsupported ⇒ controlled termination
example : loadRom ⟨true, 0x10000, fun i => if i = 0x147 then 0x19 else if i = 0x148 then 1 else if i = 0x14D then 0xCD else 0⟩
    = .panic := by decide +kernel
-- the hypotheses of `accept_complete` and the byte bound of `accepted_tables` are met by that file
example : (exFile 0x10000).opens = true ∧ headerEnd ≤ (exFile 0x10000).len ∧ checksumOk (exFile 0x10000).byte = true ∧
    cartKind ((exFile 0x10000).byte 0x147) = some 1 ∧ romBanks ((exFile 0x10000).byte 0x148) * 0x4000 ≤ (exFile 0x10000).len := by
  decide +kernel
example : ∀ i, (exFile 0x10000).byte i < 256 := by
  intro i; simp only [exFile]; repeat' split
  all_goals omega
-- unsupported type with a valid checksum: the spec demands rejection
example : mustReject (fun i => if i = 0x147 then 0x19 else if i = 0x148 then 1 else if i = 0x14D then 0xCD else 0) 0x10000 = true := by
  decide +kernel
-- the last byte of the last declared bank is inside the mapping and the file
example : busRomIndex 3 0x7fff = 0xffff := by decide +kernel
example : romBanks? 0x54 = some 96 ∧ romBanks 0x54 = 96 ∧ HeaderSpec.ramBytes? 4 = some 131072 ∧ cartKind 0x13 = some 3 := by decide +kernel

end GbVerif.C19
