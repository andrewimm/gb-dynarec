import GbVerif.Model.Joypad
import GbVerif.Spec.Joypad
import GbVerif.Proofs.NatBits
/-!
C17 — P1 reflects the button matrix and the joypad interrupt fires on falling lines.
Every theorem follows bit by bit: a read-back bit is the negated line (`line_spec`), the model's edge
detector on two read-backs is "some line falls" (`fell_lines`), and a press or release changes one bit of one
group's nibble (`held_onGroup`).
-/
namespace GbVerif.C17
open GbVerif.Joypad GbVerif.JoypadSpec

/-- representation invariant of reachable states: only the low nibble of each group is used -/
def Inv (s : State) : Prop := s.action < 16 ∧ s.direction < 16

instance (s : State) : Decidable (Inv s) := by unfold Inv; infer_instance

/-- abstraction: model state ↦ abstract button matrix -/
def abs (s : State) : Abs where
  held := fun k => if k.val < 4 then s.action.testBit k.val else s.direction.testBit (k.val - 4)
  bit4 := !s.selDirection
  bit5 := !s.selAction

theorem testBit_bitOf (k : Fin 8) (j : Nat) : (bitOf k).testBit j = decide (k.val % 4 = j) := by
  rw [bitOf, Nat.one_shiftLeft, Nat.testBit_two_pow]

theorem testBit_or_bitOf (k : Fin 8) (x i : Nat) :
    (x ||| bitOf k).testBit i = if k.val % 4 = i then true else x.testBit i := by
  rw [Nat.testBit_or, testBit_bitOf]; split <;> simp [*]

theorem testBit_and_not_bitOf (k : Fin 8) (x i : Nat) (hi : i < 8) :
    (x &&& (bitOf k ^^^ 0xff)).testBit i = if k.val % 4 = i then false else x.testBit i := by
  rw [Nat.testBit_and, Nat.testBit_xor, testBit_bitOf, show 0xff = 2^8 - 1 from rfl, Nat.testBit_two_pow_sub_one]
  split <;> simp [*]

theorem consts_testBit : ∀ i : Fin 6, (0xc0).testBit i.val = false ∧ (0x10).testBit i.val = decide (i.val = 4)
    ∧ (0x20).testBit i.val = decide (i.val = 5) := by decide

theorem getValue_testBit (s : State) (i : Nat) (hi : i < 6) : (getValue s).testBit i =
    !((s.selDirection && (decide (i = 4) || s.direction.testBit i))
      || (s.selAction && (decide (i = 5) || s.action.testBit i))) := by
  obtain ⟨h1, h2, h3⟩ := consts_testBit ⟨i, hi⟩
  rw [getValue, NatBits.testBit_xor_ff_mod _ _ (by omega)]
  cases s.selDirection <;> cases s.selAction <;>
    simp only [Nat.testBit_or, ↓reduceIte, Bool.false_eq_true, h1, h2, h3, Bool.false_or, Bool.false_and,
      Bool.true_and, Bool.or_false, Bool.or_assoc]

/-- the low nibble read back is the four input lines, for every state -/
theorem line_spec (s : State) (i : Fin 4) : (getValue s).testBit i.val = !lineLow (abs s) i := by
  have h4 : i.val ≠ 4 := by omega
  have h5 : i.val ≠ 5 := by omega
  have h : ¬ i.val + 4 < 4 := by omega
  simp [getValue_testBit s i (by omega), lineLow, abs, h4, h5, h]

/-- P1 read-back on bits 0..5 equals the spec for every reachable state -/
theorem p1_spec (s : State) (h : Inv s) (i : Fin 6) : (getValue s).testBit i.val = p1Bit (abs s) i := by
  unfold p1Bit
  split
  next h4 => exact line_spec s ⟨i.val, h4⟩
  next h4 =>
    -- the invariant is needed here only: a stray high bit of a nibble would show in bits 4 and 5
    rw [getValue_testBit s i i.isLt, NatBits.testBit_high h.1 (by omega), NatBits.testBit_high h.2 (by omega)]
    split
    next h => simp [h, abs]
    next h => simp [(by omega : i.val = 5), abs]

theorem fell_nibbles : ∀ p n : Fin 16,
    fell p.val n.val = (List.finRange 4).any fun i => p.val.testBit i.val && !n.val.testBit i.val := by
  decide +kernel

theorem fell_lines (s s' : State) :
    fell (getValue s &&& 0x0f) (getValue s' &&& 0x0f) = someLineFalls (abs s) (abs s') := by
  have lt (v : Nat) : v &&& 0x0f < 16 := Nat.lt_succ_of_le Nat.and_le_right
  rw [fell_nibbles ⟨_, lt _⟩ ⟨_, lt _⟩, someLineFalls]
  congr; funext i
  simp only [Nat.testBit_and, show 0x0f = 2^4 - 1 from rfl, Nat.testBit_two_pow_sub_one, i.isLt, decide_true,
    Bool.and_true, line_spec, Bool.not_not]

theorem edge_eq (s s' : State) :
    (if fell (getValue s &&& 0x0f) (getValue s' &&& 0x0f) then { s' with irq := true } else s')
      = { s' with irq := s'.irq || someLineFalls (abs s) (abs s') } := by
  rw [fell_lines]; cases someLineFalls (abs s) (abs s') <;> simp

/-- `f` applied to the nibble of the group button `k` belongs to -/
def onGroup (s : State) (k : Fin 8) (f : Nat → Nat) : State :=
  { s with action := if k.val < 4 then f s.action else s.action,
           direction := if k.val < 4 then s.direction else f s.direction }

theorem inv_onGroup {s : State} (h : Inv s) (k : Fin 8) {f : Nat → Nat} (hf : ∀ x, x < 16 → f x < 16) :
    Inv (onGroup s k f) := by
  unfold onGroup Inv; split
  · exact ⟨hf _ h.1, h.2⟩
  · exact ⟨h.1, hf _ h.2⟩

/-- if `f` sets bit `k % 4` of a nibble to `b` and keeps the others, `onGroup s k f` sets button `k` to `b` -/
theorem held_onGroup (s : State) (k j : Fin 8) {f : Nat → Nat} {b : Bool}
    (hf : ∀ x i, i < 4 → (f x).testBit i = if k.val % 4 = i then b else x.testBit i) :
    (abs (onGroup s k f)).held j = if j = k then b else (abs s).held j := by
  by_cases hk : k.val < 4 <;> by_cases hj : j.val < 4 <;>
    simp only [abs, onGroup, hk, hj, ↓reduceIte, Fin.ext_iff]
  · rw [hf _ _ hj]; simp only [show k.val % 4 = j.val ↔ j.val = k.val by omega]
  · exact (if_neg (by omega)).symm
  · exact (if_neg (by omega)).symm
  · rw [hf _ _ (by omega)]; simp only [show k.val % 4 = j.val - 4 ↔ j.val = k.val by omega]

theorem step_press (s : State) (k : Fin 8) : step s (.press k) =
    { onGroup s k (· ||| bitOf k) with
      irq := s.irq || someLineFalls (abs s) (abs (onGroup s k (· ||| bitOf k))) } := by
  simp only [step, edge_eq, onGroup]; split <;> rfl

theorem step_release (s : State) (k : Fin 8) :
    step s (.release k) = onGroup s k (· &&& (bitOf k ^^^ 0xff)) := by
  simp only [step, onGroup]; split <;> rfl

theorem stepSel_eq (s : State) (d a : Bool) : stepSel s d a =
    { s with selDirection := d, selAction := a,
             irq := s.irq || someLineFalls (abs s) (abs { s with selDirection := d, selAction := a }) } :=
  edge_eq s { s with selDirection := d, selAction := a }

/-- the invariant holds of the power-on state (`inv_step`: every action preserves it) -/
theorem inv_init : Inv init := by decide

theorem inv_step (s : State) (h : Inv s) (a : Action) : Inv (step s a) := by
  cases a with
  | press k =>
    have hb : bitOf k < 2^4 := by
      rw [bitOf, Nat.one_shiftLeft]; exact Nat.pow_lt_pow_right (by decide) (Nat.mod_lt _ (by decide))
    rw [step_press]; exact inv_onGroup h k fun x hx => Nat.or_lt_two_pow (n := 4) hx hb
  | release k => rw [step_release]; exact inv_onGroup h k fun x hx => Nat.lt_of_le_of_lt Nat.and_le_left hx
  | select v => rw [step, stepSel_eq]; exact h

theorem inv_reachable (as : List Action) : Inv (as.foldl step init) := by
  suffices ∀ s, Inv s → Inv (as.foldl step s) from this _ inv_init
  induction as with
  | nil => intro s h; exact h
  | cons a as ih => intro s h; exact ih _ (inv_step s h a)

theorem held_release (s : State) (k j : Fin 8) :
    (abs (step s (.release k))).held j = (if j = k then false else (abs s).held j) := by
  rw [step_release]; exact held_onGroup s k j fun x i hi => testBit_and_not_bitOf k x i (by omega)

/-- the abstraction commutes with actions: pressing/releasing changes exactly that button -/
theorem abs_press (s : State) (h : Inv s) (k j : Fin 8) :
    (abs (step s (.press k))).held j = (if j = k then true else (abs s).held j) := by
  rw [step_press]; exact held_onGroup s k j (f := (· ||| bitOf k)) fun x i _ => testBit_or_bitOf k x i

theorem abs_release (s : State) (h : Inv s) (k j : Fin 8) :
    (abs (step s (.release k))).held j = (if j = k then false else (abs s).held j) :=
  held_release s k j

/-- a select write records exactly bits 4 and 5 of the written byte and touches no button -/
theorem abs_select (s : State) (v : Nat) :
    (abs (step s (.select v))).bit4 = v.testBit 4 ∧ (abs (step s (.select v))).bit5 = v.testBit 5
    ∧ (abs (step s (.select v))).held = (abs s).held := by
  simp [step, stepSel_eq, abs, NatBits.mask_clear v 4, NatBits.mask_clear v 5]

/-- no line falls when the select bits stay and no button becomes held -/
theorem someLineFalls_of_le {a b : Abs} (h4 : b.bit4 = a.bit4) (h5 : b.bit5 = a.bit5)
    (hle : ∀ j, b.held j = true → a.held j = true) : someLineFalls a b = false := by
  have taut : ∀ p q x y x' y' : Bool, (x' = true → x = true) → (y' = true → y = true) →
      (!((!p && x) || (!q && y)) && ((!p && x') || (!q && y'))) = false := by decide
  simp only [someLineFalls, List.any_eq_false, Bool.not_eq_true, lineLow, h4, h5]
  exact fun i _ => taut _ _ _ _ _ _ (hle _) (hle _)

/-- An action sets the request exactly when some input line goes high → low, and never clears it;
this needs no invariant. -/
theorem step_irq (s : State) (a : Action) :
    (step s a).irq = (s.irq || someLineFalls (abs s) (abs (step s a))) := by
  cases a with
  | press k => rw [step_press]; rfl
  | release k =>
    have : someLineFalls (abs s) (abs (step s (.release k))) = false := by
      refine someLineFalls_of_le ?_ ?_ fun j => ?_
      · rw [step_release]; rfl
      · rw [step_release]; rfl
      · rw [held_release]; split <;> simp
    rw [this, Bool.or_false, step_release]; rfl
  | select v => rw [step, stepSel_eq]; rfl

/-- The interrupt request is raised by an action exactly when some input line goes high → low,
for every reachable state (request not already pending) and every action. -/
theorem irq_iff_falling (s : State) (h : Inv s) (hq : s.irq = false) (a : Action) :
    (step s a).irq = someLineFalls (abs s) (abs (step s a)) := by
  rw [step_irq, hq, Bool.false_or]

/-- a pending request is never dropped by an action -/
theorem irq_sticky (s : State) (h : Inv s) (a : Action) (hq : s.irq = true) : (step s a).irq = true := by
  rw [step_irq, hq, Bool.true_or]

/-- a take reports the request and clears it: a second take reports none -/
theorem irq_once (s : State) : (takeIrq s).1 = s.irq ∧ (takeIrq (takeIrq s).2).1 = false := by
  simp [takeIrq]

/-- non-vacuity: a reachable state where a select change makes one line fall while another rises
(the case that gb-dynarec's earlier comparison `new < prev` missed; the code now tests `prev & !new`) -/
example : let s := [Action.press 3, .press 4, .select 0x10].foldl step init
    Inv s ∧ (takeIrq s).2.irq = false ∧ (step (takeIrq s).2 (.select 0x20)).irq = true := by decide

end GbVerif.C17
