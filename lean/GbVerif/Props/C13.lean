import GbVerif.Model.Timer
import GbVerif.Spec.Timer
import GbVerif.Proofs.Timer
import GbVerif.Proofs.TimerRefine
import GbVerif.Proofs.TimerCount
/-!
C13 — DIV/TIMA.  The property theorems; their lemmas are in `Proofs/Timer*.lean`.

Model: `GbVerif.Timer` (mirror of `src/devices/timer.rs`: batched `run_cycles` with the disabled fast path and
the deferred `&= 0xffff`).  Spec: `GbVerif.TimerSpec` (one clock at a time, unbounded elapsed-clock count,
falling edge of `selected divider bit ∧ enable`).

Domain: `run n` is `run_cycles` for a batch that does not overflow the `u32` (`runCycles_eq_run`:
always the case for batches of at most 0xffff0000 clocks; `runCycles_panic_iff` says exactly when the
overflow-checked build panics).  Not part of the property and therefore of no theorem here: the TIMA tick a
DIV write can cause on hardware (model and spec both reset the divider without an edge).
-/
namespace GbVerif.C13
open GbVerif.Timer
open GbVerif.TimerSpec (Hw selBit period enabled signal tickTima tickTimaN writeTac)

theorem wf_init : Wf init := by decide

/-- every operation (any written byte, any batch size) preserves the invariant -/
theorem wf_apply (s : State) (w : Wf s) (op : Op) : Wf (apply s op).1 :=
  (refines_apply (refines_abs s w) op).1.1

/-- every reachable state satisfies the invariant -/
theorem wf_reachable (ops : List Op) : Wf (exec ops init).1 :=
  (refines_exec ops refines_init).1.1

/-- what the invariant bounds: `cycle_count` is back below 2^16 after every operation, the clock mask is 0 or one of the four bits -/
theorem wf_bounds (s : State) (w : Wf s) :
    s.cycleCount < 65536 ∧ s.counter < 256 ∧ s.modulo < 256 ∧ s.controlValue < 256 ∧
    (s.timerClockMask = 0 ∨ s.timerClockMask = 8 ∨ s.timerClockMask = 32 ∨ s.timerClockMask = 128 ∨ s.timerClockMask = 512) ∧
    (s.enabledMask = 0 ∨ s.enabledMask = 0xffff) := by
  refine ⟨w.1, w.2.1, w.2.2.1, w.2.2.2.1, ?_, ?_⟩
  · rcases w.2.2.2.2 with h | h
    · exact Or.inl h.2.1
    · rw [h.2, clockMaskOf_eq]
      rcases selBit_cases s.controlValue with e | e | e | e <;> rw [e] <;> simp
  · rcases w.2.2.2.2 with h | h
    · exact Or.inl h.1
    · rw [h.1, enabledMaskOf_eq]; cases enabled s.controlValue <;> simp

/-- reachable, non-trivial states (enabled, mid-phase, TIMA about to overflow; and the power-on masks) -/
example : Wf (exec [.run 65400, .tac 5, .run 300, .tima 255, .tma 200, .run 77] init).1 := by decide +kernel
example : Wf (exec [.run 12345, .tima 7] init).1 ∧ (exec [.run 12345, .tima 7] init).1.timerClockMask = 0 := by
  decide +kernel

/-- batches add up in any state with `timer_clock_mask < 2^16`, reachable or not -/
theorem run_add_of_mask_lt (a b : Nat) (s : State) (hm : s.timerClockMask < 65536) :
    run (a + b) s = seq (run a s) (run b) :=
  Timer.run_add a b s hm

/-- Batching invariance: one `run_cycles` batch of `a + b` clocks leaves the same state as a batch of `a`
followed by a batch of `b`, and returns the OR of their flags — every reachable state (enabled or not,
every TAC, every divider phase), every `a`, `b`. -/
theorem run_add (a b : Nat) (s : State) (w : Wf s) : run (a + b) s = seq (run a s) (run b) :=
  run_add_of_mask_lt a b s w.mask_lt

example : (⟨0x12345, 300, 7, 1, 0x8008, 999⟩ : State).timerClockMask < 65536 := by decide

/-- running a list of batches one after the other -/
def runBatches : List Nat → State → State × Bool
  | [], s => (s, false)
  | b :: bs, s => seq (run b s) (runBatches bs)

/-- Partition independence: however the same total time is split into catch-up batches, the resulting
state (hence DIV, TIMA) and the interrupt request are the same. -/
theorem partition_independent (bs : List Nat) (s : State) (w : Wf s) : runBatches bs s = run bs.sum s := by
  induction bs generalizing s with
  | nil =>
    simp only [runBatches, List.sum_nil]
    rw [run_eq_clocks 0 s w.mask_lt, norm_of_lt s w.1]; rfl
  | cons b bs ih =>
    simp only [runBatches, List.sum_cons]
    rw [run_add b bs.sum s w]
    have w' : Wf (run b s).1 := wf_apply s w (.run b)
    unfold seq
    rw [ih _ w']

theorem partitions_agree (bs cs : List Nat) (h : bs.sum = cs.sum) (s : State) (w : Wf s) :
    runBatches bs s = runBatches cs s := by
  rw [partition_independent bs s w, partition_independent cs s w, h]

/-- `run_cycles` panics (overflow-checked build) exactly when `cycle_count + (clock as u32)` leaves `u32` -/
theorem runCycles_panic_iff (s : State) (clock : Nat) :
    runCycles s clock = none ↔ s.cycleCount + clock % 2 ^ 32 ≥ 2 ^ 32 := by
  show (if s.cycleCount + clock % 2 ^ 32 < 2 ^ 32 then some (run (clock % 2 ^ 32) s) else none) = none ↔ _
  split <;> simp <;> omega

/-- no panic, and `run` is what happens, for every reachable state and batch ≤ 0xffff0000 -/
theorem runCycles_eq_run (s : State) (w : Wf s) (clock : Nat) (hc : clock ≤ 0xffff0000) :
    runCycles s clock = some (run clock s) := by
  have h1 : clock % 2 ^ 32 = clock := Nat.mod_eq_of_lt (by omega)
  have := w.1
  show (if s.cycleCount + clock % 2 ^ 32 < 2 ^ 32 then some (run (clock % 2 ^ 32) s) else none) = _
  rw [h1, if_pos (by omega)]

/-- batching invariance at the level of the real entry point -/
theorem runCycles_add (s : State) (w : Wf s) (a b : Nat) (hab : a + b ≤ 0xffff0000) :
    runCycles s (a + b) =
      (runCycles s a).bind fun r => (runCycles r.1 b).map fun q => (q.1, r.2 || q.2) := by
  have w' : Wf (run a s).1 := wf_apply s w (.run a)
  rw [runCycles_eq_run s w (a + b) hab, runCycles_eq_run s w a (by omega)]
  simp only [Option.bind_some]
  rw [runCycles_eq_run _ w' b (by omega), run_add a b s w]
  rfl

/-- a batch of `n` clocks is `n` single clocks of the spec machine, with the same interrupt request -/
theorem run_eq_spec (n : Nat) (s : State) (h : Hw) (r : Refines s h) :
    Refines (run n s).1 (TimerSpec.clocks n h).1 ∧ (run n s).2 = (TimerSpec.clocks n h).2 :=
  refines_run n r

example : Refines (exec [.run 65400, .tac 7, .run 300, .tima 250] init).1 ⟨65700, 250, 0, 7⟩ := by
  refine ⟨by decide +kernel, by decide +kernel, by decide +kernel, by decide +kernel, by decide +kernel⟩

/-- every history of register writes and batches, from power-on: the model state represents the spec state
and the two produce the same sequence of interrupt requests -/
theorem exec_eq_spec (ops : List Op) :
    Refines (exec ops init).1 (TimerSpec.exec (ops.map toEv) TimerSpec.init).1 ∧
    (exec ops init).2 = (TimerSpec.exec (ops.map toEv) TimerSpec.init).2 :=
  refines_exec ops refines_init

/-- what the four registers read back is what the spec machine holds -/
theorem registers_eq_spec (ops : List Op) :
    let s := (exec ops init).1
    let h := (TimerSpec.exec (ops.map toEv) TimerSpec.init).1
    getDivider s = TimerSpec.div h ∧ getCounter s = h.tima ∧ getModulo s = h.tma ∧ getTimerControl s = h.tac := by
  have r := (exec_eq_spec ops).1
  exact ⟨getDivider_refines r, r.2.2.1, r.2.2.2.1, r.2.2.2.2⟩

/-- DIV equals bits 8..15 of the number of clocks elapsed since DIV was last written (since power-on if
never), after every history of writes and batches of any size. -/
theorem div_spec (ops : List Op) :
    getDivider (exec ops init).1 = (TimerSpec.sinceDivWrite (ops.map toEv) / 256) % 256 := by
  have r := (exec_eq_spec ops).1
  rw [getDivider_refines r, sinceDivWrite_eq]
  unfold TimerSpec.div
  rw [spec_exec_elapsed]
  rfl

example : TimerSpec.sinceDivWrite ([Op.run 5, .div, .run 300, .tac 5, .run 1000].map toEv) = 1300 := by decide

/-- Closed form (spec): while enabled, `n` clocks starting `e` clocks after the last DIV write clock TIMA
exactly `⌊(e+n)/P⌋ − ⌊e/P⌋` times, `P` the selected period — i.e. once per period, on the falling edge. -/
theorem ticks_closed_form (n : Nat) (h : Hw) (hen : enabled h.tac = true) :
    TimerSpec.clocks n h =
      ({ (tickTimaN ((h.elapsed + n) / period h.tac - h.elapsed / period h.tac) h).1 with elapsed := h.elapsed + n },
       (tickTimaN ((h.elapsed + n) / period h.tac - h.elapsed / period h.tac) h).2) :=
  spec_clocks_closed n h hen

example : enabled 6 = true ∧ period 6 = 64 ∧ period 4 = 1024 ∧ period 5 = 16 ∧ period 7 = 256 := by decide

/-- One tick per period (model): in any window of exactly one selected period (1024/16/64/256 clocks =
`2 * timer_clock_mask`), from every divider phase and every TIMA/TMA, while enabled, the batch performs
exactly one `increment_counter`. -/
theorem one_tick_per_period (s : State) (w : Wf s) (hen : s.enabledMask ≠ 0) :
    run (2 * s.timerClockMask) s =
      ({ (incrementCounter s).1 with cycleCount := (s.cycleCount + 2 * s.timerClockMask) % 65536 },
       (incrementCounter s).2) :=
  run_period s w hen

example : let s := (exec [.run 12000, .tac 6, .run 345] init).1
    Wf s ∧ s.enabledMask ≠ 0 ∧ 2 * s.timerClockMask = 64 := by decide +kernel

/-- One tick per period (spec): while enabled, a window of one selected period ticks TIMA exactly once, from every phase -/
theorem one_tick_per_period_spec (h : Hw) (hen : enabled h.tac = true) :
    TimerSpec.clocks (period h.tac) h =
      ({ (tickTima h).1 with elapsed := h.elapsed + period h.tac }, (tickTima h).2) :=
  spec_one_tick_per_period h hen

/-- while TAC bit 2 is clear nothing ticks: only the divider advances, no request -/
theorem disabled_no_tick (n : Nat) (s : State) (w : Wf s) (hd : s.enabledMask = 0) :
    run n s = ({ s with cycleCount := (s.cycleCount + n) % 65536 }, false) := by
  rw [run_eq_clocks n s w.mask_lt, norm_of_lt s w.1]
  exact clocks_disabled n s (by simp [hd]) w.1

example : let s := (exec [.tac 3, .run 77] init).1
    Wf s ∧ s.enabledMask = 0 := by decide +kernel

/-- a clock requests the timer interrupt exactly when it is a falling edge of the selected signal with
TIMA = 0xFF; TIMA then holds TMA -/
theorem irq_iff_overflow_tick (s : State) (h : Hw) (r : Refines s h) :
    (run 1 s).2 = (signal h && !signal { h with elapsed := h.elapsed + 1 } && h.tima == 255) ∧
    ((run 1 s).2 = true → (run 1 s).1.counter = s.modulo) := by
  have rr := refines_run 1 r
  have hs : TimerSpec.clocks 1 h = ((TimerSpec.clock h).1, (TimerSpec.clock h).2 || false) := rfl
  have ht : (tickTima h).2 = (h.tima == 255) ∧ ((tickTima h).2 = true → (tickTima h).1.tima = h.tma) := by
    unfold tickTima; split <;> simp [*]
  rw [hs, Bool.or_false] at rr
  rw [rr.2, rr.1.2.2.1, r.2.2.2.1, spec_clock_eq]
  split
  · next hc => rw [hc, Bool.true_and]; exact ht
  · next hc => simp [hc]

/-- Overflow (model): with TIMA = 0xFF, a window of one period from any phase reloads TIMA from TMA and
returns the timer flag; and the flag is raised in exactly one clock of the window — wherever the window is
cut into two batches, exactly one of them returns it. -/
theorem overflow_reload_once (s : State) (w : Wf s) (hen : s.enabledMask ≠ 0) (hc : s.counter = 255) :
    run (2 * s.timerClockMask) s =
      ({ s with counter := s.modulo, cycleCount := (s.cycleCount + 2 * s.timerClockMask) % 65536 }, true) ∧
    ∀ a b, a + b = 2 * s.timerClockMask → ((run a s).2 != (run b (run a s).1).2) = true := by
  refine ⟨?_, run_overflow_once s w hen hc⟩
  rw [run_period s w hen]
  unfold incrementCounter
  simp [hc]

example : let s := (exec [.tma 200, .tac 5, .run 5, .tima 255] init).1
    Wf s ∧ s.enabledMask ≠ 0 ∧ s.counter = 255 := by decide +kernel

/-- Overflow (spec): enabled, with TIMA = 0xFF, a window of one period reloads TIMA from TMA and requests the interrupt;
wherever the window is cut into two batches, exactly one of them returns the request -/
theorem overflow_reload_once_spec (h : Hw) (hen : enabled h.tac = true) (ht : h.tima = 255) :
    TimerSpec.clocks (period h.tac) h = ({ h with tima := h.tma, elapsed := h.elapsed + period h.tac }, true) ∧
    ∀ a b, a + b = period h.tac →
      ((TimerSpec.clocks a h).2 != (TimerSpec.clocks b (TimerSpec.clocks a h).1).2) = true :=
  ⟨by rw [spec_one_tick_per_period h hen]; unfold tickTima; simp [ht], spec_overflow_once h hen ht⟩

/-- A TAC write ticks TIMA exactly when it turns `selected bit ∧ enable` from 1 to 0 (deselecting a high
bit, or disabling while the bit is high); otherwise it only stores the new control value and masks. -/
theorem tac_glitch (s : State) (w : Wf s) (v : Nat) :
    setTimerControl s v =
      if (signal (abs s) && !signal { abs s with tac := v % 256 }) = true
      then incrementCounter (withTac s v) else (withTac s v, false) :=
  setTimerControl_signal (refines_abs s w) v

/-- `set_timer_control` is the spec's TAC write -/
theorem tac_write_eq_spec (s : State) (h : Hw) (r : Refines s h) (v : Nat) :
    Refines (setTimerControl s v).1 (writeTac h v).1 ∧ (setTimerControl s v).2 = (writeTac h v).2 :=
  refines_setTimerControl r v

/-- non-vacuity: enabled at 16 clocks/tick with divider bit 3 high; writing TAC = 6 (bit 5, low) ticks TIMA;
writing TAC = 1 (disable) ticks TIMA; with TIMA = 0xFF the glitch reloads and requests the interrupt -/
example : let s := (exec [.tac 5, .run 8] init).1
    Wf s ∧ signal (abs s) = true ∧ (setTimerControl s 6).1.counter = 1 ∧ (setTimerControl s 1).1.counter = 1 ∧
    setTimerControl (setModulo (setCounter s 255) 9) 0 = (⟨8, 9, 9, 0, 512, 0⟩, true) := by decide +kernel

/-! The executable forms of the spec that the replay driver uses are the spec. -/

/-- the accumulator-passing clock loop is `clocks` -/
theorem clocksAcc_eq (n : Nat) (h : Hw) (f : Bool) :
    TimerSpec.clocksAcc n h f = ((TimerSpec.clocks n h).1, f || (TimerSpec.clocks n h).2) := by
  induction n generalizing h f with
  | zero => simp [TimerSpec.clocksAcc, TimerSpec.clocks]
  | succ n ih =>
    simp only [TimerSpec.clocksAcc, TimerSpec.clocks]
    rw [ih, Bool.or_assoc]

/-- the closed form the driver uses for long batches is `clocks`, for every state and length -/
theorem clocksFast_eq (n : Nat) (h : Hw) : TimerSpec.clocksFast n h = TimerSpec.clocks n h := by
  unfold TimerSpec.clocksFast
  cases hen : enabled h.tac
  · rw [spec_clocks_disabled n h hen]; rfl
  · rw [spec_clocks_closed n h hen]; rfl

end GbVerif.C13
