/-! Bit numbering used by the frame reference (`Spec/Frame.lean`); in its own file so that the
proof about `interleave` does not depend on the rest of the reference. -/
namespace GbVerif.FrameSpec

/-- value (0/1) of bit `k` of a byte -/
def bit (v k : Nat) : Nat := v / 2 ^ k % 2

end GbVerif.FrameSpec
