/-
Model of `src/devices/video/tile.rs` (`interleave`) and of the X-flip expression of
`get_object_row` in `src/devices/video/mod.rs`: the 64-bit multiply tricks, literally.
`u64` values are `Nat` with an explicit `% 2^64` where the Rust operation wraps.
Kept in its own file so that the proofs about the two tricks (`Proofs/PpuInterleave`, `Proofs/PpuBits`)
are not re-checked when the pipeline model changes.
-/
namespace GbVerif.Ppu

def two64 : Nat := 0x10000000000000000

/-- `tile::interleave(low, high)` — the 64-bit multiply trick, literally -/
def interleave (low high : Nat) : Nat :=
  let accHigh := (high * 0x0101010101010101) % two64
  let accHigh := accHigh &&& 0x8040201008040201
  let accHigh := (accHigh * 0x0102040810204081) % two64
  let accHigh := accHigh >>> 48
  let accHigh := accHigh &&& 0xaaaa
  let accLow := (low * 0x0101010101010101) % two64
  let accLow := accLow &&& 0x8040201008040201
  let accLow := (accLow * 0x0102040810204081) % two64
  let accLow := accLow >>> 49
  let accLow := accLow &&& 0x5555
  (accHigh ||| accLow) % 65536

/-- the flip expression of `get_object_row`:
`(((b as u64 * 0x80200802) & 0x0884422110).wrapping_mul(0x0101010101) >> 32) as u8` -/
def flipByte (b : Nat) : Nat :=
  (((((b * 0x80200802) &&& 0x0884422110) * 0x0101010101) % two64) >>> 32) % 256

end GbVerif.Ppu
