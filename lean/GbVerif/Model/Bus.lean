import GbVerif.Model.Cart
import GbVerif.Model.Joypad
/-
Model of `src/mem.rs` (address ladders `memory_read_byte` / `memory_write_byte`, word helpers, OAM-DMA; the fetch
view is in Model/Fetch.lean) and of the register side of `src/devices/io.rs` (`IO::get_byte` / `IO::set_byte`).
Rust panics (slice index out of range) are explicit: every access returns `Except Panic`.
Tied by the `c10`, `c11`, `c16` correspondence streams.
-/
namespace GbVerif.Bus

inductive Panic where
  | oob (what : String)      -- slice index out of range
  | overflow (what : String) -- arithmetic overflow with overflow checks on
  | explicit (what : String) -- `panic!`
deriving Repr, DecidableEq

/-- register side of the timer (`src/devices/timer.rs`), without the passage of time -/
structure TimerRegs where
  cycleCount : Nat := 0
  counter : Nat := 0
  modulo : Nat := 0
  enabledMask : Nat := 0
  clockMask : Nat := 0
  control : Nat := 0
deriving Repr, DecidableEq

/-- register side of the LCD controller (`src/devices/video/mod.rs`) -/
structure VideoRegs where
  lcdc : Nat := 0
  irqLyc : Bool := false
  irqM2 : Bool := false
  irqM1 : Bool := false
  irqM0 : Bool := false
  scy : Nat := 0
  scx : Nat := 0
  line : Nat := 144
  mode : Nat := 1
  lyc : Nat := 0
  bgp : Nat := 0
  obp0 : Nat := 0
  obp1 : Nat := 0
  wy : Nat := 0
  wx : Nat := 0
  dots : Nat := 0                -- `current_mode_dots` (timing side, advanced by `Sys.videoRun` only)
  frames : Nat := 0              -- `frames_completed`
deriving Repr, DecidableEq

structure Io where
  joy : Joypad.State := Joypad.init
  sb : Nat := 0
  sc : Nat := 0
  serialOut : List Nat := []     -- bytes written to stdout, oldest first
  timer : TimerRegs := {}
  ifl : Nat := 0                 -- `interrupt_flag`
  ie : Nat := 0                  -- `interrupt_mask` (5 bits)
  ieUpper : Nat := 0             -- `interrupt_mask_upper` (bits 5..7 as written)
  video : VideoRegs := {}
deriving Repr

/-- `VideoState::check_current_line` -/
def VideoRegs.checkLine (v : VideoRegs) : Nat := if v.lyc == v.line && v.irqLyc then 2 else 0

/-- `VideoState::get_lcd_status` -/
def VideoRegs.stat (v : VideoRegs) : Nat :=
  (if v.irqLyc then 0x40 else 0) ||| (if v.irqM2 then 0x20 else 0) ||| (if v.irqM1 then 0x10 else 0) |||
  (if v.irqM0 then 0x08 else 0) ||| (if v.lyc == v.line then 4 else 0) ||| v.mode

/-- `Timer::set_timer_control`; returns the new registers and the interrupt flag -/
def TimerRegs.setControl (t : TimerRegs) (flags : Nat) : TimerRegs × Nat :=
  let old := t.cycleCount &&& t.clockMask &&& t.enabledMask
  let en := if flags &&& 4 != 0 then 0xffff else 0
  let cm := match flags &&& 3 with
    | 1 => 1 <<< 3 | 2 => 1 <<< 5 | 3 => 1 <<< 7 | _ => 1 <<< 9
  let t' := { t with control := flags, enabledMask := en, clockMask := cm }
  if old != 0 && (t'.cycleCount &&& cm &&& en) == 0 then
    if t'.counter == 0xff then ({ t' with counter := t'.modulo }, 4) else ({ t' with counter := (t'.counter + 1) % 256 }, 0)
  else (t', 0)

/-- `IO::set_byte(addr, value)`; `addr` is `0xFF00 | low`, only the low byte matters -/
def Io.setByte (io : Io) (addr value : Nat) : Io :=
  match addr &&& 0xff with
  | 0x00 => { io with joy := Joypad.step io.joy (.select value) }
  | 0x01 => { io with sb := value }
  | 0x02 => { io with sc := value, serialOut := if value &&& 0x80 != 0 then io.serialOut ++ [io.sb] else io.serialOut }
  | 0x04 => { io with timer := { io.timer with cycleCount := 0 } }
  | 0x05 => { io with timer := { io.timer with counter := value } }
  | 0x06 => { io with timer := { io.timer with modulo := value } }
  | 0x07 => let (t, f) := io.timer.setControl value; { io with timer := t, ifl := io.ifl ||| f }
  | 0x0f => { io with ifl := value &&& 0x1f }
  | 0x40 => { io with video := { io.video with lcdc := value } }
  | 0x41 =>
    let v := { io.video with irqLyc := value &&& 0x40 != 0, irqM2 := value &&& 0x20 != 0,
                             irqM1 := value &&& 0x10 != 0, irqM0 := value &&& 0x08 != 0 }
    { io with video := v, ifl := io.ifl ||| v.checkLine }
  | 0x42 => { io with video := { io.video with scy := value } }
  | 0x43 => { io with video := { io.video with scx := value } }
  | 0x45 => let v := { io.video with lyc := value }; { io with video := v, ifl := io.ifl ||| v.checkLine }
  | 0x47 => { io with video := { io.video with bgp := value } }
  | 0x48 => { io with video := { io.video with obp0 := value } }
  | 0x49 => { io with video := { io.video with obp1 := value } }
  | 0x4a => { io with video := { io.video with wy := value } }
  | 0x4b => { io with video := { io.video with wx := value } }
  | _ => io

/-- `IO::get_byte(addr)` -/
def Io.getByte (io : Io) (addr : Nat) : Nat :=
  match addr &&& 0xff with
  | 0x00 => Joypad.getValue io.joy
  | 0x03 => 0xff
  | 0x04 => (io.timer.cycleCount &&& 0xff00) >>> 8
  | 0x05 => io.timer.counter
  | 0x06 => io.timer.modulo
  | 0x07 => io.timer.control
  | 0x0f => io.ifl ||| 0xe0
  | 0x40 => io.video.lcdc
  | 0x41 => io.video.stat
  | 0x42 => io.video.scy
  | 0x43 => io.video.scx
  | 0x44 => io.video.line
  | 0x45 => io.video.lyc
  | 0x47 => io.video.bgp
  | 0x48 => io.video.obp0
  | 0x49 => io.video.obp1
  | 0x4a => io.video.wy
  | 0x4b => io.video.wx
  | _ => 0xff

/-- `MemoryAreas` -/
structure State where
  cart : Cart.State
  romLen : Nat
  rom : Nat → Nat               -- immutable ROM image (index < romLen)
  vram : Array Nat              -- 0x2000
  cram : Array Nat              -- header RAM size
  wram : Array Nat              -- 0x2000 (bank 0 + bank `wram_bank` = 1)
  oam : Array Nat               -- 0xa0
  hram : Array Nat              -- 127
  io : Io := {}
  dmaReg : Nat := 0xff          -- `oam_dma_register`
  dma : Option (Nat × Nat) := none   -- `oam_dma`: (source, current_offset)

def rd (what : String) (a : Array Nat) (i : Nat) : Except Panic Nat :=
  if h : i < a.size then .ok a[i] else .error (.oob what)

def wr (what : String) (a : Array Nat) (i v : Nat) : Except Panic (Array Nat) :=
  if h : i < a.size then .ok (a.set i v) else .error (.oob what)

/-- `memory_read_byte(areas, addr)`, `addr < 65536` -/
def read (s : State) (addr : Nat) : Except Panic Nat :=
  if addr < 0x4000 then
    if addr < s.romLen then .ok (s.rom addr) else .error (.oob "rom0")
  else if addr < 0x8000 then
    let i := 0x4000 * Cart.getRomBank s.cart + (addr &&& 0x3fff)
    if i < s.romLen then .ok (s.rom i) else .error (.oob "romx")
  else if addr < 0xa000 then rd "vram" s.vram (addr &&& 0x1fff)
  else if addr < 0xc000 then
    let i := 0x2000 * Cart.getRamBank s.cart + (addr &&& 0x1fff)
    if s.cram.size == 0 then .ok 0xff
    else if i ≥ s.cram.size then .ok 0xff
    else rd "cram" s.cram i
  else if addr < 0xd000 then rd "wram0" s.wram (addr &&& 0xfff)
  else if addr < 0xe000 then rd "wramx" s.wram (0x1000 + (addr &&& 0xfff))
  else if addr < 0xfe00 then .ok 0
  else if addr < 0xfea0 then rd "oam" s.oam (addr &&& 0xff)
  else if addr < 0xff00 then .ok 0
  else if addr < 0xff80 then
    if addr == 0xff46 then .ok s.dmaReg else .ok (s.io.getByte addr)
  else if addr == 0xffff then .ok (s.io.ie ||| s.io.ieUpper)
  else rd "hram" s.hram (addr &&& 0x7f)

/-- `memory_write_byte(areas, addr, value)` -/
def write (s : State) (addr value : Nat) : Except Panic State :=
  if addr < 0x8000 then .ok { s with cart := Cart.writeRom s.cart addr value }
  else if addr < 0xa000 then do let a ← wr "vram" s.vram (addr &&& 0x1fff) value; pure { s with vram := a }
  else if addr < 0xc000 then
    let i := 0x2000 * Cart.getRamBank s.cart + (addr &&& 0x1fff)
    if s.cram.size == 0 then .ok s
    else if i < s.cram.size then do
      let a ← wr "cram" s.cram i value
      pure { s with cram := a }
    else .ok s
  else if addr < 0xd000 then do let a ← wr "wram0" s.wram (addr &&& 0xfff) value; pure { s with wram := a }
  else if addr < 0xe000 then do let a ← wr "wramx" s.wram (0x1000 + (addr &&& 0xfff)) value; pure { s with wram := a }
  else if addr < 0xfe00 then .ok s
  else if addr < 0xfea0 then do let a ← wr "oam" s.oam (addr &&& 0xff) value; pure { s with oam := a }
  else if addr < 0xff00 then .ok s
  else if addr < 0xff80 then
    if addr == 0xff46 then .ok { s with dmaReg := value, dma := some (value <<< 8, 0) }
    else .ok { s with io := s.io.setByte addr value }
  else if addr == 0xffff then .ok { s with io := { s.io with ie := value &&& 0x1f, ieUpper := value &&& 0xe0 } }
  else do let a ← wr "hram" s.hram (addr &&& 0x7f) value; pure { s with hram := a }

/-- `memory_read_word`: low byte at `addr`, high byte at `addr + 1` (wrapping) -/
def readWord (s : State) (addr : Nat) : Except Panic Nat := do
  let lo ← read s addr
  let hi ← read s ((addr + 1) % 65536)
  pure ((hi <<< 8) ||| lo)

/-- `memory_write_word` -/
def writeWord (s : State) (addr value : Nat) : Except Panic State := do
  let s ← write s addr (value &&& 0xff)
  write s ((addr + 1) % 65536) (value >>> 8)

/-- one iteration of the OAM-DMA copy loop of `MemoryAreas::run_clock_cycles` -/
def dmaCopyByte (s : State) (source off : Nat) : Except Panic State := do
  let v ← read s ((source + off) % 65536)
  write s (0xfe00 + off) v

def dmaLoop (s : State) (source off : Nat) : Nat → Except Panic (State × Nat)
  | 0 => .ok (s, off)
  | n+1 => do
    let s ← dmaCopyByte s source off
    dmaLoop s source (off + 1) n

/-- the DMA part of `MemoryAreas::run_clock_cycles(cycles)` -/
def runDma (s : State) (clocks : Nat) : Except Panic State :=
  match s.dma with
  | none => .ok s
  | some (source, off) => do
    let n := min (0xa0 - off) (clocks / 4)
    let (s, off) ← dmaLoop s source off n
    pure { s with dma := if off < 0xa0 then some (source, off) else none }

/-- `MemoryAreas::with_rom_file`: buffers sized from the header -/
def create (kind : Cart.Kind) (romBanks ramBytes : Nat) (rom : Nat → Nat) : State where
  cart := Cart.init kind romBanks (ramBytes / 0x2000)
  romLen := romBanks * 0x4000
  rom := rom
  vram := Array.replicate 0x2000 0
  cram := Array.replicate ramBytes 0
  wram := Array.replicate 0x2000 0
  oam := Array.replicate 0xa0 0
  hram := Array.replicate 127 0

end GbVerif.Bus
