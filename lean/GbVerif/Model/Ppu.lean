import GbVerif.Model.Tile
/-
Model of the pixel pipeline of `src/devices/video/{mod,tile,lcd}.rs` (hand-written, tied to the
code by the `c15` correspondence stream): the setters that configure it, `get_tile_address`,
`get_tile_row`, `get_object_row`, `find_current_line_sprites`, `cache_next_tile_row`,
`cache_next_window_tile_row`, one iteration of the `while cycles_remaining > 0` loop of
`run_clock_cycles` (all four modes, without the interrupt flags, which are C14's) and the
double buffer of `lcd.rs`.

`u8`/`u16`/`u64`/`usize` values are `Nat`; every place where the Rust value wraps or truncates
carries an explicit `%`.  Every slice/array index expression of the code is a `rd`/`wr` that
returns `Panic.oob` when the index is out of range (that nothing of the kind is reachable with
an 8 KiB VRAM and a 160-byte OAM is a theorem, `C15.line_spec` / `C15.frame_spec`, not an assumption).
-/
namespace GbVerif.Ppu

inductive Panic where
  | oob            -- slice index out of range
deriving DecidableEq, Repr

/-- `a[i]` on a slice -/
@[inline] def rd (a : Array Nat) (i : Nat) : Except Panic Nat :=
  match a[i]? with
  | some v => .ok v
  | none => .error .oob

/-- `a[i] = v` on a slice -/
@[inline] def wr (a : Array Nat) (i v : Nat) : Except Panic (Array Nat) :=
  if i < a.size then .ok (a.set! i v) else .error .oob

/-- `const SHADES: [u8; 4] = [255, 170, 85, 0]`, indexed by a value that was masked with `& 3` -/
def shade (i : Nat) : Nat :=
  if i = 0 then 255 else if i = 1 then 170 else if i = 2 then 85 else 0

/-! ### configuration written by the setters (constant over a frame in C15) -/

structure Cfg where
  tileAddressOffset : Nat
  firstTileOffset : Nat
  bgMapOffset : Nat
  windowMapOffset : Nat
  objectDoubleHeight : Bool
  objectEnabled : Bool
  windowEnabled : Bool
  bgPalette : Array Nat        -- `[u8; 4]`
  objectPalettes : Array Nat   -- `[u8; 4 * 8]`
  scrollX : Nat
  scrollY : Nat
  windowX : Nat
  windowY : Nat
deriving Repr

/-- the configuration part of `VideoState::new()` -/
def Cfg.new : Cfg where
  tileAddressOffset := 0
  firstTileOffset := 0
  bgMapOffset := 0x1800
  windowMapOffset := 0x1800
  objectDoubleHeight := false
  objectEnabled := false
  windowEnabled := false
  bgPalette := #[0, 0, 0, 0]
  objectPalettes := Array.replicate 32 0
  scrollX := 0
  scrollY := 0
  windowX := 0
  windowY := 0

/-- `set_lcd_control` (the fields the pipeline reads; `lcd.enabled`, `bg_window_enabled` and
`lcd_control_value` are stored by the code but never read by the drawing code) -/
def Cfg.setLcdControl (c : Cfg) (value : Nat) : Cfg :=
  { c with
    windowMapOffset := if value &&& 0x40 == 0 then 0x1800 else 0x1c00
    windowEnabled := value &&& 0x20 == 0x20
    tileAddressOffset := if value &&& 0x10 == 0 then 0x800 else 0
    firstTileOffset := if value &&& 0x10 == 0 then 0x800 else 0
    bgMapOffset := if value &&& 0x08 == 0 then 0x1800 else 0x1c00
    objectDoubleHeight := value &&& 0x04 == 0x04
    objectEnabled := value &&& 0x02 == 0x02 }

/-- `set_bgp` -/
def Cfg.setBgp (c : Cfg) (value : Nat) : Cfg :=
  { c with bgPalette := #[shade (value &&& 3), shade ((value >>> 2) &&& 3),
                          shade ((value >>> 4) &&& 3), shade ((value >>> 6) &&& 3)] }

/-- `set_obj_palette(palette, value)` -/
def Cfg.setObjPalette (c : Cfg) (palette value : Nat) : Cfg :=
  let offset := (palette &&& 7) * 4
  let p := c.objectPalettes
  let p := p.set! (offset + 0) (shade (value &&& 3))
  let p := p.set! (offset + 1) (shade ((value >>> 2) &&& 3))
  let p := p.set! (offset + 2) (shade ((value >>> 4) &&& 3))
  let p := p.set! (offset + 3) (shade ((value >>> 6) &&& 3))
  { c with objectPalettes := p }

/-- the guest-visible registers C15 quantifies over (all bytes) -/
structure Regs where
  lcdc : Nat
  scx : Nat
  scy : Nat
  wx : Nat
  wy : Nat
  bgp : Nat
  obp0 : Nat
  obp1 : Nat
deriving Repr, DecidableEq

/-- the harness' register set-up on an existing `VideoState`: `set_lcd_control`, `set_bgp`,
`set_obj_palette(0/1)`, `set_scroll_x/y`, `set_window_x/y` -/
def Cfg.applyRegs (c : Cfg) (r : Regs) : Cfg :=
  let c := c.setLcdControl r.lcdc
  let c := c.setBgp r.bgp
  let c := c.setObjPalette 0 r.obp0
  let c := c.setObjPalette 1 r.obp1
  { c with scrollX := r.scx, scrollY := r.scy, windowX := r.wx, windowY := r.wy }

/-- `new` followed by the set-up sequence -/
def Cfg.ofRegs (r : Regs) : Cfg := Cfg.new.applyRegs r

/-! ### tile fetches -/

/-- `get_tile_address` -/
def getTileAddress (c : Cfg) (index : Nat) : Nat :=
  ((c.firstTileOffset + index * 16) &&& 0xfff) + c.tileAddressOffset

/-- `get_bg_tile` -/
def getBgTile (c : Cfg) (vram : Array Nat) (x y : Nat) : Except Panic Nat :=
  rd vram (c.bgMapOffset + (x + y * 32))

/-- `get_window_tile` -/
def getWindowTile (c : Cfg) (vram : Array Nat) (x y : Nat) : Except Panic Nat :=
  rd vram (c.windowMapOffset + (x + y * 32))

/-- `get_tile_row` -/
def getTileRow (c : Cfg) (vram : Array Nat) (tile row : Nat) : Except Panic Nat := do
  let address := getTileAddress c tile + row * 2
  let low ← rd vram address
  let high ← rd vram (address + 1)
  pure (interleave low high)

/-- `get_object_row` -/
def getObjectRow (vram : Array Nat) (tileIndex row : Nat) (flipX : Bool) : Except Panic Nat := do
  let address := (tileIndex <<< 4) + row * 2
  let lowRaw ← rd vram address
  let highRaw ← rd vram (address + 1)
  let low := if flipX then flipByte lowRaw else lowRaw
  let high := if flipX then flipByte highRaw else highRaw
  pure (interleave low high)

/-! ### `find_current_line_sprites` -/

/-- `struct ObjectAttributes` -/
structure Obj where
  palette : Nat
  xCoord : Nat
  rowData : Nat
  hasPriority : Bool
deriving Repr, DecidableEq

/-- the selection loop `while offset < 160 && objects_found.len() < 10`; `fuel` is its trip
bound (40: `offset` grows by 4 per trip) -/
def selectLoop (c : Cfg) (vram oam : Array Nat) (line : Nat) :
    (fuel : Nat) → (offset : Nat) → (found : List Obj) → Except Panic (List Obj)
  | 0, _, found => pure found
  | fuel + 1, offset, found =>
    if offset < 160 ∧ found.length < 10 then do
      let objectY ← rd oam offset
      let objectX ← rd oam (offset + 1)
      let tileIndex ← rd oam (offset + 2)
      let attributes ← rd oam (offset + 3)
      let objectHeight := if c.objectDoubleHeight then 16 else 8
      -- `object_line = current_line + 16 - object_y` in `isize`; `< 0 || >= height` → continue
      if line + 16 < objectY ∨ line + 16 - objectY ≥ objectHeight then
        selectLoop c vram oam line fuel (offset + 4) found
      else
        let objectLine := line + 16 - objectY
        let flipY := attributes &&& 0x40 != 0
        let flipX := attributes &&& 0x20 != 0
        let objectLine := if flipY then objectHeight - objectLine - 1 else objectLine
        -- 8x16 objects ignore bit 0 of the tile index (`fix:` 83bf9d5; before it the index was used as it is)
        let tileIndex := if c.objectDoubleHeight then tileIndex &&& 0xfe else tileIndex
        let rowData ← getObjectRow vram tileIndex objectLine flipX
        let obj : Obj := { hasPriority := attributes &&& 0x80 == 0,
                           palette := (attributes &&& 0x10) >>> 4,
                           rowData := rowData, xCoord := objectX }
        selectLoop c vram oam line fuel (offset + 4) (found ++ [obj])
    else pure found

/-- `for x in 0..8 { … }`: copy the eight pixels of one object into the line cache where no
earlier object is `present`; `x = 8 - n` -/
def drawObj (obj : Obj) (lineX : Nat) : (n : Nat) → (pixelData : Nat) → Array Nat → Except Panic (Array Nat)
  | 0, _, cache => pure cache
  | n + 1, pixelData, cache => do
    let offset := lineX + (7 - n)
    let cur ← rd cache offset
    let cache ←
      if cur &&& 0x80 == 0 then
        let priority := if obj.hasPriority then 0x40 else 0
        let palette := (obj.palette <<< 2) % 256
        let colorIndex := ((pixelData >>> 14) &&& 3) % 256
        if colorIndex != 0 then wr cache offset (0x80 ||| priority ||| palette ||| colorIndex)
        else pure cache
      else pure cache
    drawObj obj lineX n ((pixelData <<< 2) % 65536) cache

/-- `for obj_index in 0..total_objects { … }` at one `line_x`: objects starting here are drawn
and taken out of the set (`inner.take()`) -/
def sweepObjs (lineX : Nat) : List (Option Obj) → Array Nat → Nat →
    Except Panic (List (Option Obj) × Array Nat × Nat)
  | [], cache, drawn => pure ([], cache, drawn)
  | none :: rest, cache, drawn => do
    let (rest', cache, drawn) ← sweepObjs lineX rest cache drawn
    pure (none :: rest', cache, drawn)
  | some obj :: rest, cache, drawn =>
    if obj.xCoord != lineX then do
      let (rest', cache, drawn) ← sweepObjs lineX rest cache drawn
      pure (some obj :: rest', cache, drawn)
    else do
      let cache ← drawObj obj lineX 8 obj.rowData cache
      let (rest', cache, drawn) ← sweepObjs lineX rest cache (drawn + 1)
      pure (none :: rest', cache, drawn)

/-- `while line_x < 168 && drawn_count < total_objects`; `fuel` = 168 -/
def sweep (total : Nat) : (fuel : Nat) → (lineX : Nat) → List (Option Obj) → Array Nat → Nat →
    Except Panic (Array Nat)
  | 0, _, _, cache, _ => pure cache
  | fuel + 1, lineX, objs, cache, drawn =>
    if lineX < 168 ∧ drawn < total then do
      let (objs, cache, drawn) ← sweepObjs lineX objs cache drawn
      sweep total fuel (lineX + 1) objs cache drawn
    else pure cache

/-- `find_current_line_sprites`: the new `object_line_cache` (`current_obj_line_cache_pixel`
becomes 8, see `State`) -/
def findCurrentLineSprites (c : Cfg) (vram oam : Array Nat) (line : Nat) : Except Panic (Array Nat) := do
  let cache := Array.replicate 176 0
  if !c.objectEnabled then pure cache
  else
    let found ← selectLoop c vram oam line 40 0 []
    let total := found.length
    if total == 0 then pure cache
    else sweep total 168 0 (found.map some) cache 0

/-! ### the machine -/

inductive Mode where
  | m0 | m1 | m2 | m3
deriving DecidableEq, Repr

structure State where
  cfg : Cfg
  visible : Array Nat            -- `lcd.visible_buffer`
  writing : Array Nat            -- `lcd.writing_buffer`
  mode : Mode                    -- `current_mode` (only ever assigned 0..3)
  dots : Nat                     -- `current_mode_dots`
  line : Nat                     -- `current_line`
  nextTileX : Nat                -- `next_cached_tile_x`
  tileCache : Nat                -- `current_tile_cache: u16`
  objCache : Array Nat           -- `object_line_cache: [u8; 176]`
  objPix : Nat                   -- `current_obj_line_cache_pixel`
  windowLine : Option Nat        -- `current_window_line`
deriving Repr

/-- `VideoState::new()` followed by the setters -/
def powerOn (c : Cfg) : State where
  cfg := c
  visible := Array.replicate 23040 0
  writing := Array.replicate 23040 0
  mode := .m1
  dots := 0
  line := 144
  nextTileX := 0
  tileCache := 0
  objCache := Array.replicate 176 0
  objPix := 0
  windowLine := none

/-- `cache_next_tile_row` -/
def cacheNextTileRow (s : State) (vram : Array Nat) : Except Panic State := do
  let tileX := s.nextTileX
  let relativeTileLine := (s.line + s.cfg.scrollY) % 256      -- `wrapping_add` on `u8`
  let tileY := relativeTileLine >>> 3
  let tileIndex ← getBgTile s.cfg vram tileX tileY
  let tileRow := relativeTileLine &&& 7
  let row ← getTileRow s.cfg vram tileIndex tileRow
  pure { s with tileCache := row, nextTileX := (s.nextTileX + 1) % 32 }

/-- `cache_next_window_tile_row` -/
def cacheNextWindowTileRow (s : State) (vram : Array Nat) : Except Panic State := do
  let tileX := s.nextTileX
  let relativeTileLine := (s.line + 256 - s.cfg.windowY) % 256  -- `wrapping_sub` on `u8`
  let tileY := relativeTileLine >>> 3
  let tileIndex ← getWindowTile s.cfg vram tileX tileY
  let tileRow := relativeTileLine &&& 7
  let row ← getTileRow s.cfg vram tileIndex tileRow
  pure { s with tileCache := row, nextTileX := (s.nextTileX + 1) % 32 }

/-- the set-up performed when mode 2 ends -/
def enterMode3 (s : State) (vram : Array Nat) : Except Panic State := do
  let useWindow := !(!s.cfg.windowEnabled || s.line < s.cfg.windowY)
  let s := { s with windowLine := if useWindow then some (s.line - s.cfg.windowY) else none }
  if useWindow && s.cfg.windowX ≤ 7 then
    let firstWindowPixel := 7 - s.cfg.windowX
    let s := { s with nextTileX := 0 }
    let s ← cacheNextWindowTileRow s vram
    pure { s with tileCache := (s.tileCache <<< (firstWindowPixel * 2)) % 65536 }
  else
    let s := { s with nextTileX := (s.cfg.scrollX >>> 3) % 32 }
    let s ← cacheNextTileRow s vram
    let fineScrollX := s.cfg.scrollX &&& 7
    pure { s with tileCache := (s.tileCache <<< (fineScrollX * 2)) % 65536 }

/-- body of `while tile_x < 8 && dots_remaining > 0` (one pixel) followed by the
`if tile_x >= 8 { cache next tile; tile_x = 0 }` that the code executes as soon as the `while`
is left; returns the new `tile_x`.  (`tile_x < 8` holds whenever the `while` is entered: it is
masked with `& 7` at the start of the step and reset to 0 after every fetch.) -/
def pixelStep (drawWindow : Bool) (vram : Array Nat) (tileX writeIndex : Nat) (s : State) :
    Except Panic (Nat × State) := do
  let objectPixel ← rd s.objCache s.objPix
  let paletteIndex := (s.tileCache &&& 0xc000) >>> 14
  let bgColor ← rd s.cfg.bgPalette paletteIndex
  let objHasPriority := (objectPixel &&& 0x40) != 0 || paletteIndex == 0
  -- `get_writing_buffer_line(current_line)`: the slice `[line*160 .. line*160+160]`
  if s.line * 160 + 160 > s.writing.size ∨ writeIndex ≥ 160 then throw .oob
  let color ←
    if objectPixel &&& 0x80 != 0 && objHasPriority then
      let palOffset := ((objectPixel &&& 0x1c) >>> 2) * 4
      rd s.cfg.objectPalettes (palOffset + (objectPixel &&& 3))
    else pure bgColor
  let writing ← wr s.writing (s.line * 160 + writeIndex) color
  let s := { s with writing := writing, objPix := s.objPix + 1, tileCache := (s.tileCache <<< 2) % 65536 }
  let tileX := tileX + 1
  let writeIndex := writeIndex + 1
  let (tileX, s) :=
    if drawWindow && writeIndex + 7 == s.cfg.windowX then (8, { s with nextTileX := 0 })
    else (tileX, s)
  if tileX ≥ 8 then
    let s ← if drawWindow && writeIndex + 7 ≥ s.cfg.windowX then cacheNextWindowTileRow s vram
            else cacheNextTileRow s vram
    pure (0, s)
  else pure (tileX, s)

/-- the `loop { … }` of a mode-3 step: `dots` pixels starting at `writeIndex` -/
def drawDots (drawWindow : Bool) (vram : Array Nat) :
    (dots : Nat) → (tileX writeIndex : Nat) → State → Except Panic State
  | 0, _, _, s => pure s
  | dots + 1, tileX, writeIndex, s => do
    let (tileX, s) ← pixelStep drawWindow vram tileX writeIndex s
    drawDots drawWindow vram dots tileX (writeIndex + 1) s

/-- the drawing arm of mode 3 (`current_mode_dots <= 160 && current_line < 144`) -/
def drawStep (s : State) (vram : Array Nat) (previousDotCount : Nat) : Except Panic State :=
  let tileX := ((previousDotCount &&& 7) + (s.cfg.scrollX &&& 7)) &&& 7
  let windowX := s.cfg.windowX
  let drawWindow := s.windowLine.isSome
  let tileX := if drawWindow && previousDotCount + 7 ≥ windowX then (previousDotCount + 7 - windowX) &&& 7 else tileX
  drawDots drawWindow vram 4 tileX previousDotCount s

/-- one iteration of `while cycles_remaining > 0 { cycles_remaining -= 4; … }` -/
def tick (s : State) (vram oam : Array Nat) : Except Panic State :=
  let previousDotCount := s.dots
  let s := { s with dots := s.dots + 4 }
  match s.mode with
  | .m0 =>
    if s.dots ≥ 188 then
      let s := { s with dots := s.dots - 188 }
      if s.line < 143 then do
        let s := { s with line := s.line + 1, mode := .m2 }
        let cache ← findCurrentLineSprites s.cfg vram oam s.line
        pure { s with objCache := cache, objPix := 8 }
      else
        -- `lcd.swap_buffers()`
        pure { s with line := 144, mode := .m1, visible := s.writing, writing := s.visible }
    else pure s
  | .m1 =>
    if s.dots ≥ 456 then
      let s := { s with dots := s.dots - 456 }
      if s.line < 153 then pure { s with line := s.line + 1 }
      else do
        let s := { s with line := 0, mode := .m2 }
        let cache ← findCurrentLineSprites s.cfg vram oam s.line
        pure { s with objCache := cache, objPix := 8 }
    else pure s
  | .m2 =>
    if s.dots ≥ 80 then
      enterMode3 { s with dots := s.dots - 80, mode := .m3 } vram
    else pure s
  | .m3 =>
    if s.dots ≥ 188 then pure { s with dots := s.dots - 188, mode := .m0 }
    else if s.dots ≤ 160 ∧ s.line < 144 then drawStep s vram previousDotCount
    else pure s

/-- `n` iterations -/
def runTicks (vram oam : Array Nat) : Nat → State → Except Panic State
  | 0, s => pure s
  | n + 1, s => do
    let s ← tick s vram oam
    runTicks vram oam n s

/-- the frame the harness observes: power-on, 4560 clocks to line 0, 144 × 456 clocks to VBlank -/
def renderFirst (r : Regs) (vram oam : Array Nat) : Except Panic State :=
  runTicks vram oam (1140 + 144 * 114) (powerOn (Cfg.ofRegs r))

def renderFrame (r : Regs) (vram oam : Array Nat) : Except Panic (Array Nat) := do
  let s ← renderFirst r vram oam
  pure s.visible

/-- the next frame on the same machine (stream `c15.seq`): `vbTicks` ticks of the VBlank with the
old memories, then the setters are called and VRAM/OAM replaced, then the rest of the VBlank and
the 144 lines.  Nothing of the state is re-initialised. -/
def renderNext (s : State) (r : Regs) (vramOld oamOld vram oam : Array Nat) (vbTicks : Nat) : Except Panic State := do
  let s ← runTicks vramOld oamOld vbTicks s
  let s := { s with cfg := s.cfg.applyRegs r }
  runTicks vram oam (1140 - vbTicks + 144 * 114) s

end GbVerif.Ppu
