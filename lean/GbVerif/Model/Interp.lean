import GbVerif.Model.Op
import GbVerif.Model.Bus
/-
Model of `src/interpreter/mod.rs` (`run_op` and every `interp_*` function; `run_next_op` and `run_code_block` are in
Model/Cpu.lean) and of `src/cpu.rs::Registers`.  Register fields are Rust `u32`s: `Nat`s with the masks the code
applies.
Bus accesses go through an abstract bus (`BusOps`) so that the CPU model can be tied to the code for *any*
bus behaviour (trace-driven correspondence) and composed with `Bus.State` for the whole machine.
-/
namespace GbVerif.Interp

structure Regs where
  af : Nat := 0
  bc : Nat := 0
  de : Nat := 0
  hl : Nat := 0
  sp : Nat := 0
  ip : Nat := 0
  cycles : Nat := 0
deriving DecidableEq, Repr, Inhabited

def STATUS_NORMAL : Nat := 0
def STATUS_STOP : Nat := 1
def STATUS_HALT : Nat := 2
def STATUS_INTERRUPT_DISABLE : Nat := 3
def STATUS_INTERRUPT_ENABLE : Nat := 4
def STATUS_INTERRUPT_ENABLE_IMMEDIATE : Nat := 5

/-- the bus as the interpreter sees it: byte reads and writes on some state `β`, both may panic -/
structure BusOps (β : Type) where
  read : β → Nat → Except Bus.Panic Nat
  write : β → Nat → Nat → Except Bus.Panic β

def u8 (x : Nat) : Nat := x % 256
def u16 (x : Nat) : Nat := x % 65536
def u32 (x : Nat) : Nat := x % 4294967296

/-! ### `Registers` accessors (`cpu.rs`) -/
def getHi (p : Nat) : Nat := (p >>> 8) % 256          -- `(self.xx >> 8) as u8`
def getLo (p : Nat) : Nat := p % 256                   -- `(self.xx & 0xff) as u8`
def setHi (p v : Nat) : Nat := (p &&& 0x00ff) ||| (v <<< 8)
def setLo (p v : Nat) : Nat := (p &&& 0xff00) ||| v

def getReg (r : Regs) : Reg8 → Nat
  | .A => getHi r.af | .B => getHi r.bc | .C => getLo r.bc | .D => getHi r.de
  | .E => getLo r.de | .H => getHi r.hl | .L => getLo r.hl

def setReg (r : Regs) (reg : Reg8) (v : Nat) : Regs :=
  match reg with
  | .A => { r with af := setHi r.af v } | .B => { r with bc := setHi r.bc v } | .C => { r with bc := setLo r.bc v }
  | .D => { r with de := setHi r.de v } | .E => { r with de := setLo r.de v }
  | .H => { r with hl := setHi r.hl v } | .L => { r with hl := setLo r.hl v }

/-- `get_register_16(...) as u16` -/
def getReg16 (r : Regs) : Reg16 → Nat
  | .AF => u16 r.af | .BC => u16 r.bc | .DE => u16 r.de | .HL => u16 r.hl | .SP => u16 r.sp

def setReg16 (r : Regs) (reg : Reg16) (v : Nat) : Regs :=
  match reg with
  | .AF => { r with af := v } | .BC => { r with bc := v } | .DE => { r with de := v }
  | .HL => { r with hl := v } | .SP => { r with sp := v }

def indirectReg : Indirect → Reg16
  | .BC => .BC | .DE => .DE | _ => .HL

/-! ### flag helpers -/
/-- `apply_mask`: `af &= (0xff00 | !mask) as u32` — clears the masked flag bits and bits 16..31 -/
def applyMask (r : Regs) (mask : Nat) : Regs := { r with af := r.af &&& (0xff00 ||| ((mask ^^^ 0xff) % 256)) }
def orF (r : Regs) (bits : Nat) : Regs := { r with af := r.af ||| bits }
def testZero (r : Regs) (v : Nat) : Regs := if v == 0 then orF r 0x80 else r
def testHalf (r : Regs) (f : Bool) : Regs := if f then orF r 0x20 else r
def testCarry (r : Regs) (f : Bool) : Regs := if f then orF r 0x10 else r
def setNeg (r : Regs) : Regs := orF r 0x40
def carryIn (af : Nat) : Nat := if af &&& 0x10 != 0 then 1 else 0

/-! ### ALU primitives: (value, carry, half-carry) -/
def carryAdd (a b : Nat) : Nat × Bool × Bool :=
  (u8 (a + b), a + b > 255, ((a &&& 0x0f) + (b &&& 0x0f)) &&& 0x10 != 0)
def carryAdc (a b af : Nat) : Nat × Bool × Bool :=
  let e := carryIn af
  (u8 (a + b + e), a + b > 255 || u8 (a + b) + e > 255, ((a &&& 0x0f) + (b &&& 0x0f) + e) &&& 0x10 != 0)
/-- `wrapping_sub` on u8 nibbles then `& 0x10` -/
def carrySub (a b : Nat) : Nat × Bool × Bool :=
  (u8 (a + 256 - b), a < b, u8 ((a &&& 0x0f) + 256 - (b &&& 0x0f)) &&& 0x10 != 0)
def carrySbc (a b af : Nat) : Nat × Bool × Bool :=
  let e := carryIn af
  let p := u8 (a + 256 - b)
  (u8 (p + 256 - e), a < b || p < e, u8 (u8 ((a &&& 0x0f) + 256 - (b &&& 0x0f)) + 256 - e) &&& 0x10 != 0)
def carryAdd16 (a b : Nat) : Nat × Bool × Bool :=
  (u16 (a + b), a + b > 65535, ((a &&& 0x0fff) + (b &&& 0x0fff)) &&& 0x1000 != 0)

/-- flags after an 8-bit add-like result: mask 0xf0, then C, H, Z -/
def flagsAdd (r : Regs) (res : Nat × Bool × Bool) : Regs :=
  testZero (testHalf (testCarry (applyMask r 0xf0) res.2.1) res.2.2) res.1
def flagsSub (r : Regs) (res : Nat × Bool × Bool) : Regs :=
  testZero (setNeg (testHalf (testCarry (applyMask r 0xf0) res.2.1) res.2.2)) res.1

/-! ### 8-bit operations on A with an operand byte -/
def opAdd (r : Regs) (v : Nat) (dest : Reg8 := .A) : Regs :=
  let res := carryAdd (getReg r dest) v; flagsAdd (setReg r dest res.1) res
def opAdc (r : Regs) (v : Nat) (dest : Reg8 := .A) : Regs :=
  let res := carryAdc (getReg r dest) v r.af; flagsAdd (setReg r dest res.1) res
def opSub (r : Regs) (v : Nat) (dest : Reg8 := .A) : Regs :=
  let res := carrySub (getReg r dest) v; flagsSub (setReg r dest res.1) res
def opSbc (r : Regs) (v : Nat) (dest : Reg8 := .A) : Regs :=
  let res := carrySbc (getReg r dest) v r.af; flagsSub (setReg r dest res.1) res
def opAnd (r : Regs) (v : Nat) (dest : Reg8 := .A) : Regs :=
  let x := getReg r dest &&& v; testZero (orF (applyMask (setReg r dest x) 0xf0) 0x20) x
def opXor (r : Regs) (v : Nat) (dest : Reg8 := .A) : Regs :=
  let x := getReg r dest ^^^ v; testZero (applyMask (setReg r dest x) 0xf0) x
def opOr (r : Regs) (v : Nat) (dest : Reg8 := .A) : Regs :=
  let x := getReg r dest ||| v; testZero (applyMask (setReg r dest x) 0xf0) x
def opCp (r : Regs) (v : Nat) : Regs :=
  let res := carrySub (getReg r .A) v; flagsSub r res

/-! ### rotates / shifts: value ↦ (result, carry) -/
def rlThrough (v af : Nat) : Nat × Bool := (u8 (v <<< 1) ||| ((af &&& 0x10) >>> 4), v &&& 0x80 == 0x80)
def rlCircular (v : Nat) : Nat × Bool := (u8 (v <<< 1) ||| ((v &&& 0x80) >>> 7), (v &&& 0x80) >>> 7 != 0)
def rrThrough (v af : Nat) : Nat × Bool := ((v >>> 1) ||| u8 ((af &&& 0x10) <<< 3), v &&& 0x01 == 0x01)
def rrCircular (v : Nat) : Nat × Bool := ((v >>> 1) ||| u8 ((v &&& 0x01) <<< 7), u8 ((v &&& 0x01) <<< 7) != 0)
def sla (v : Nat) : Nat × Bool := (u8 (v <<< 1), v &&& 0x80 != 0)
def sra (v : Nat) : Nat × Bool := ((v >>> 1) ||| (v &&& 0x80), v &&& 0x01 != 0)
def srl (v : Nat) : Nat × Bool := (v >>> 1, v &&& 0x01 != 0)
def swapN (v : Nat) : Nat := (v >>> 4) ||| u8 ((v &&& 0x0f) <<< 4)

/-- flags of the CB rotates/shifts: mask 0xf0, C, Z -/
def flagsRot (r : Regs) (res : Nat × Bool) (withZero : Bool) : Regs :=
  let r := testCarry (applyMask r 0xf0) res.2
  if withZero then testZero r res.1 else r

/-- `interp_daa` -/
def daa (r : Regs) : Regs :=
  let a := getReg r .A
  let af := r.af
  let af :=
    if af &&& 0x20 != 0 || (af &&& 0x40 == 0 && a &&& 0x0f > 0x09) then
      if af &&& 0x40 == 0 then af + 0x0600
      else
        let af := u32 (af + 4294967296 - 0x0600)
        if af &&& 0x10 == 0 then af &&& 0xffff else af
    else af
  let af :=
    if af &&& 0x10 != 0 || (af &&& 0x40 == 0 && af &&& 0xffff00 > 0x9f00) then
      if af &&& 0x40 == 0 then af + 0x6000 else u32 (af + 4294967296 - 0x6000)
    else af
  let af := if af > 0xffff then af ||| 0x10 else af
  let af := af &&& 0xff50
  let af := if af &&& 0xff00 == 0 then af ||| 0x80 else af
  { r with af := af }

/-- signed-offset add used by ADD SP,e8 / LD HL,SP+e8: (result, carry, half) -/
def addSigned (value off : Nat) : Nat × Bool × Bool :=
  let result := if off &&& 0x80 == 0 then u16 (value + off) else u16 (value + 65536 - u16 ((off ^^^ 0xff) + 1))
  (result, ((value &&& 0xff) + (off &&& 0xff)) &&& 0x100 != 0, ((value &&& 0x0f) + (off &&& 0x0f)) &&& 0x10 != 0)

def condHolds (af : Nat) : Cond → Bool
  | .Always => true
  | .Zero => af &&& 0x80 != 0
  | .Carry => af &&& 0x10 != 0
  | .NonZero => af &&& 0x80 == 0
  | .NoCarry => af &&& 0x10 == 0

section
variable {β : Type} (B : BusOps β)

/-- `push`: high byte at SP-1, low byte at SP-2 -/
def push (value : Nat) (r : Regs) (m : β) : Except Bus.Panic (Regs × β) := do
  let a1 := u16 (getReg16 r .SP + 65535)
  let m ← B.write m a1 ((value >>> 8) % 256)
  let a2 := u16 (a1 + 65535)
  let m ← B.write m a2 (value &&& 0xff)
  pure (setReg16 r .SP a2, m)

/-- `pop` -/
def pop (r : Regs) (m : β) : Except Bus.Panic (Nat × Regs) := do
  let a := getReg16 r .SP
  let lo ← B.read m a
  let a := u16 (a + 1)
  let hi ← B.read m a
  let a := u16 (a + 1)
  pure ((hi <<< 8) ||| lo, setReg16 r .SP a)

def advance (r : Regs) (length : Nat) : Regs := { r with ip := r.ip + length }

/-- read-modify-write on (HL) -/
def rmwHL (r : Regs) (m : β) (f : Nat → Regs → Nat × Regs) : Except Bus.Panic (Regs × β) := do
  let addr := getReg16 r .HL
  let v ← B.read m addr
  let (res, r) := f v r
  let m ← B.write m addr res
  pure (r, m)

/-- `run_op(op, registers, mem, length)`: new registers, bus and status; `Op::Invalid` is `panic!` -/
def runOp (op : Op) (r : Regs) (m : β) (length : Nat) : Except Bus.Panic (Regs × β × Nat) :=
  let ok (r : Regs) (m : β) : Except Bus.Panic (Regs × β × Nat) := .ok (advance r length, m, STATUS_NORMAL)
  match op with
  | .NoOp => ok r m
  | .Load8 d s => ok (setReg r d (getReg r s)) m
  | .Load16 d v => ok (setReg16 r d v) m
  | .LoadToIndirect loc reg => do
    let m ← B.write m (getReg16 r (indirectReg loc)) (getReg r reg)
    let r := match loc with
      | .HLIncrement => { r with hl := u32 (r.hl + 1) &&& 0xffff }
      | .HLDecrement => { r with hl := u32 (r.hl + 4294967295) &&& 0xffff }
      | _ => r
    ok r m
  | .LoadImmediateToHLIndirect v => do let m ← B.write m (getReg16 r .HL) v; ok r m
  | .LoadFromIndirect reg loc => do
    let v ← B.read m (getReg16 r (indirectReg loc))
    let r := setReg r reg v
    let r := match loc with
      | .HLIncrement => { r with hl := u32 (r.hl + 1) &&& 0xffff }
      | .HLDecrement => { r with hl := u32 (r.hl + 4294967295) &&& 0xffff }
      | _ => r
    ok r m
  | .Load8Immediate reg v => ok (setReg r reg v) m
  | .Increment8 reg =>
    let res := carryAdd (getReg r reg) 1
    ok (testZero (testHalf (applyMask (setReg r reg res.1) 0xe0) res.2.2) res.1) m
  | .Decrement8 reg =>
    let res := carrySub (getReg r reg) 1
    ok (testZero (setNeg (testHalf (applyMask (setReg r reg res.1) 0xe0) res.2.2)) res.1) m
  | .Increment16 reg => ok (setReg16 r reg (u16 (getReg16 r reg + 1))) m
  | .Decrement16 reg => ok (setReg16 r reg (u16 (getReg16 r reg + 65535))) m
  | .IncrementHLIndirect => do
    let (r, m) ← rmwHL B r m fun v r =>
      let res := carryAdd v 1; (res.1, testZero (testHalf (applyMask r 0xe0) res.2.2) res.1)
    ok r m
  | .DecrementHLIndirect => do
    let (r, m) ← rmwHL B r m fun v r =>
      let res := carrySub v 1; (res.1, testZero (setNeg (testHalf (applyMask r 0xe0) res.2.2)) res.1)
    ok r m
  | .Add8 d s => ok (opAdd r (getReg r s) d) m
  | .AddWithCarry8 d s => ok (opAdc r (getReg r s) d) m
  | .AddHL src =>
    let res := carryAdd16 (getReg16 r .HL) (getReg16 r src)
    ok (testHalf (testCarry (applyMask (setReg16 r .HL res.1) 0x70) res.2.1) res.2.2) m
  | .AddAbsolute8 v => ok (opAdd r v) m
  | .AddAbsoluteWithCarry8 v => ok (opAdc r v) m
  | .AddIndirect => do let v ← B.read m (getReg16 r .HL); ok (opAdd r v) m
  | .AddIndirectWithCarry => do let v ← B.read m (getReg16 r .HL); ok (opAdc r v) m
  | .Sub8 d s => ok (opSub r (getReg r s) d) m
  | .SubWithCarry8 d s => ok (opSbc r (getReg r s) d) m
  | .SubAbsolute8 v => ok (opSub r v) m
  | .SubAbsoluteWithCarry8 v => ok (opSbc r v) m
  | .SubIndirect => do let v ← B.read m (getReg16 r .HL); ok (opSub r v) m
  | .SubIndirectWithCarry => do let v ← B.read m (getReg16 r .HL); ok (opSbc r v) m
  | .And8 d s => ok (opAnd r (getReg r s) d) m
  | .AndAbsolute8 v => ok (opAnd r v) m
  | .AndIndirect => do let v ← B.read m (getReg16 r .HL); ok (opAnd r v) m
  | .Xor8 d s => ok (opXor r (getReg r s) d) m
  | .XorAbsolute8 v => ok (opXor r v) m
  | .XorIndirect => do let v ← B.read m (getReg16 r .HL); ok (opXor r v) m
  | .Or8 d s => ok (opOr r (getReg r s) d) m
  | .OrAbsolute8 v => ok (opOr r v) m
  | .OrIndirect => do let v ← B.read m (getReg16 r .HL); ok (opOr r v) m
  | .Compare8 reg => ok (opCp r (getReg r reg)) m
  | .CompareAbsolute8 v => ok (opCp r v) m
  | .CompareIndirect => do let v ← B.read m (getReg16 r .HL); ok (opCp r v) m
  | .RotateLeftA => let res := rlThrough (getReg r .A) r.af; ok (flagsRot (setReg r .A res.1) res false) m
  | .RotateLeftCarryA => let res := rlCircular (getReg r .A); ok (flagsRot (setReg r .A res.1) res false) m
  | .RotateLeft reg => let res := rlThrough (getReg r reg) r.af; ok (flagsRot (setReg r reg res.1) res true) m
  | .RotateLeftIndirect => do
    let (r, m) ← rmwHL B r m fun v r => let res := rlThrough v r.af; (res.1, flagsRot r res true); ok r m
  | .RotateLeftCarry reg => let res := rlCircular (getReg r reg); ok (flagsRot (setReg r reg res.1) res true) m
  | .RotateLeftCarryIndirect => do
    let (r, m) ← rmwHL B r m fun v r => let res := rlCircular v; (res.1, flagsRot r res true); ok r m
  | .RotateRightA => let res := rrThrough (getReg r .A) r.af; ok (flagsRot (setReg r .A res.1) res false) m
  | .RotateRightCarryA => let res := rrCircular (getReg r .A); ok (flagsRot (setReg r .A res.1) res false) m
  | .RotateRight reg => let res := rrThrough (getReg r reg) r.af; ok (flagsRot (setReg r reg res.1) res true) m
  | .RotateRightIndirect => do
    let (r, m) ← rmwHL B r m fun v r => let res := rrThrough v r.af; (res.1, flagsRot r res true); ok r m
  | .RotateRightCarry reg => let res := rrCircular (getReg r reg); ok (flagsRot (setReg r reg res.1) res true) m
  | .RotateRightCarryIndirect => do
    let (r, m) ← rmwHL B r m fun v r => let res := rrCircular v; (res.1, flagsRot r res true); ok r m
  | .ShiftLeft reg => let res := sla (getReg r reg); ok (flagsRot (setReg r reg res.1) res true) m
  | .ShiftLeftIndirect => do
    let (r, m) ← rmwHL B r m fun v r => let res := sla v; (res.1, flagsRot r res true); ok r m
  | .ShiftRight reg => let res := sra (getReg r reg); ok (flagsRot (setReg r reg res.1) res true) m
  | .ShiftRightIndirect => do
    let (r, m) ← rmwHL B r m fun v r => let res := sra v; (res.1, flagsRot r res true); ok r m
  | .ShiftRightLogical reg => let res := srl (getReg r reg); ok (flagsRot (setReg r reg res.1) res true) m
  | .ShiftRightLogicalIndirect => do
    let (r, m) ← rmwHL B r m fun v r => let res := srl v; (res.1, flagsRot r res true); ok r m
  | .ComplementA => ok (orF (orF (setReg r .A (u8 (getReg r .A ^^^ 0xff))) 0x40) 0x20) m
  | .SetCarryFlag => ok (orF (applyMask r 0x70) 0x10) m
  | .ComplementCarryFlag => let r := applyMask r 0x60; ok { r with af := r.af ^^^ 0x10 } m
  | .BitSet reg mask => ok (setReg r reg (getReg r reg ||| mask)) m
  | .BitSetIndirect mask => do let (r, m) ← rmwHL B r m fun v r => (v ||| mask, r); ok r m
  | .BitClear reg mask => ok (setReg r reg (getReg r reg &&& ((mask ^^^ 0xff) % 256))) m
  | .BitClearIndirect mask => do let (r, m) ← rmwHL B r m fun v r => (v &&& ((mask ^^^ 0xff) % 256), r); ok r m
  | .BitTest reg mask => ok (testZero (orF (applyMask r 0xe0) 0x20) (getReg r reg &&& mask)) m
  | .BitTestIndirect mask => do
    let v ← B.read m (getReg16 r .HL)
    ok (testZero (orF (applyMask r 0xe0) 0x20) (v &&& mask)) m
  | .Swap reg => let x := swapN (getReg r reg); ok (testZero (applyMask (setReg r reg x) 0xf0) x) m
  | .SwapIndirect => do
    let (r, m) ← rmwHL B r m fun v r => let x := swapN v; (x, testZero (applyMask r 0xf0) x); ok r m
  | .LoadStackPointerToMemory addr => do
    let v := getReg16 r .SP
    let m ← B.write m addr (v &&& 0xff)
    let m ← B.write m (u16 (addr + 1)) (v >>> 8)
    ok r m
  | .LoadAToMemory addr _ => do let m ← B.write m addr (getReg r .A); ok r m
  | .LoadAFromMemory addr _ => do let v ← B.read m addr; ok (setReg r .A v) m
  | .LoadToHighMem => do let m ← B.write m (0xff00 ||| getReg r .C) (getReg r .A); ok r m
  | .LoadFromHighMem => do let v ← B.read m (0xff00 ||| getReg r .C); ok (setReg r .A v) m
  | .Push reg => do let (r, m) ← push B (getReg16 r reg) r m; ok r m
  | .Pop reg => do
    let (v, r) ← pop B r m
    let v := if reg == .AF then v &&& 0xfff0 else v
    ok (setReg16 r reg v) m
  | .AddSP off =>
    let res := addSigned (getReg16 r .SP) off
    ok (testHalf (testCarry (applyMask (setReg16 r .SP res.1) 0xf0) res.2.1) res.2.2) m
  | .LoadToStackPointer => ok (setReg16 r .SP (getReg16 r .HL)) m
  | .LoadStackOffset off =>
    let res := addSigned (getReg16 r .SP) off
    ok (testHalf (testCarry (applyMask (setReg16 r .HL res.1) 0xf0) res.2.1) res.2.2) m
  | .DAA => ok (daa r) m
  | .Jump c addr =>
    if c == .Always then .ok ({ r with ip := addr }, m, STATUS_NORMAL)
    else if condHolds r.af c then .ok ({ r with ip := addr, cycles := r.cycles + 1 }, m, STATUS_NORMAL)
    else .ok ({ r with ip := r.ip + 3 }, m, STATUS_NORMAL)
  | .JumpHL => .ok ({ r with ip := getReg16 r .HL }, m, STATUS_NORMAL)
  | .JumpRelative c off =>
    let ip := u32 (r.ip + 2)
    if condHolds r.af c then
      let ip := if off &&& 0x80 == 0 then u32 (ip + off) else u32 (ip + 4294967296 - u16 ((off ^^^ 0xff) + 1))
      .ok ({ r with ip := ip, cycles := r.cycles + 1 }, m, STATUS_NORMAL)
    else .ok ({ r with ip := ip }, m, STATUS_NORMAL)
  | .Call c addr => do
    let r := { r with ip := u32 (r.ip + 3) }
    if condHolds r.af c then
      let (r, m) ← push B (u16 r.ip) r m
      pure ({ r with ip := addr, cycles := r.cycles + 3 }, m, STATUS_NORMAL)
    else pure (r, m, STATUS_NORMAL)
  | .ResetVector v => do
    let r := { r with ip := u32 (r.ip + 1) }
    let (r, m) ← push B (u16 r.ip) r m
    pure ({ r with ip := v }, m, STATUS_NORMAL)
  | .Return c => do
    let r := { r with ip := r.ip + 1 }
    if condHolds r.af c then
      let (addr, r) ← pop B r m
      pure ({ r with ip := addr, cycles := r.cycles + 3 }, m, STATUS_NORMAL)
    else pure (r, m, STATUS_NORMAL)
  | .ReturnFromInterrupt => do
    let (addr, r) ← pop B r m
    pure ({ r with ip := addr }, m, STATUS_INTERRUPT_ENABLE_IMMEDIATE)
  | .Stop => .ok (advance r length, m, STATUS_STOP)
  | .Halt => .ok (advance r 1, m, STATUS_HALT)
  | .InterruptEnable => .ok (advance r 1, m, STATUS_INTERRUPT_ENABLE)
  | .InterruptDisable => .ok (advance r 1, m, STATUS_INTERRUPT_DISABLE)
  | .Invalid code => .error (.explicit s!"Invalid OP: {code}")

end

end GbVerif.Interp
