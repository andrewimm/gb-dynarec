/-
Model of `src/cart.rs`: the `CartState` implementations (NullCartState, MBC1CartState, MBC3CartState)
with their constructors (`Header::create_cart_state`, which picks one, is in Model/Header.lean).
Tied by the `c12` / `c10` / `c11` correspondence streams.
`usize` values are `Nat` (no overflow is reachable: every stored value is < 2^8).
-/
namespace GbVerif.Cart

inductive Kind where
  | none | mbc1 | mbc3
deriving DecidableEq, Repr

structure State where
  kind : Kind
  romBanks : Nat      -- `rom_banks`  (Header::get_rom_bank_count)
  ramBanks : Nat      -- `ram_banks`  (Header::get_ram_size_bytes / 0x2000)
  romBank : Nat       -- `rom_bank`
  ramBank : Nat       -- `ram_bank`
  ramEnabled : Bool   -- `ram_enabled`
  selectRam : Bool    -- `select_ram` (MBC1 only)
deriving DecidableEq, Repr

/-- `MBC1CartState::new` / `MBC3CartState::new` / `NullCartState::new` -/
def init (kind : Kind) (romBanks ramBanks : Nat) : State :=
  ⟨kind, romBanks, ramBanks, 1, 0, false, false⟩

/-- `CartState::write_rom(addr, value)` for `addr < 0x8000`, `value < 256` -/
def writeRom (s : State) (addr value : Nat) : State :=
  match s.kind with
  | .none => s
  | .mbc1 =>
    if addr < 0x2000 then { s with ramEnabled := value &&& 0x0a == 0x0a }
    else if addr < 0x4000 then { s with romBank := value &&& 0x1f }
    else if addr < 0x6000 then { s with ramBank := value &&& 0x03 }
    else { s with selectRam := value &&& 1 == 1 }
  | .mbc3 =>
    if addr < 0x2000 then { s with ramEnabled := value &&& 0x0a == 0x0a }
    else if addr < 0x4000 then { s with romBank := value &&& 0x7f }
    else if addr < 0x6000 then (if value < 4 then { s with ramBank := value } else s)
    else s

/-- `CartState::get_rom_bank` -/
def getRomBank (s : State) : Nat :=
  match s.kind with
  | .none => 1
  | .mbc1 =>
    let bank := if s.romBank == 0 then 1 else s.romBank
    let bank := if s.selectRam then bank else bank ||| (s.ramBank <<< 5)
    bank % s.romBanks
  | .mbc3 =>
    let bank := if s.romBank == 0 then 1 else s.romBank
    bank % s.romBanks

/-- `CartState::get_ram_bank` -/
def getRamBank (s : State) : Nat :=
  match s.kind with
  | .none => 0
  | .mbc1 => if s.selectRam && s.ramBanks > 0 then s.ramBank % s.ramBanks else 0
  | .mbc3 => if s.ramBanks > 0 then s.ramBank % s.ramBanks else 0

end GbVerif.Cart
