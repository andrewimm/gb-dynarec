import GbVerif.Model.Core
import GbVerif.Model.Timer
import GbVerif.Model.Lcd
/-
The whole machine: `MemoryAreas::run_clock_cycles` (`src/mem.rs`) and `IO::run_clock_cycles` (`src/devices/io.rs`)
composed from the device models — OAM DMA (one byte per machine cycle, the devices caught up after every byte), the
timer (C13), the LCD line/mode machine (C14) with its count of completed frames, the joypad's pending request (C17) —
as the concrete device function `Sys.dev` of the core model (`Core.Dev`).  `Core.update Sys.dev` /
`CoreProofs.updateBlock Sys.dev` (Proofs/CoreStep.lean) is then one step of `Core::update` of the real machine (pixel
work left out: it feeds nothing back into the CPU-visible state).  Tied by the `c09*` correspondence streams
(registers, IF, LY, STAT, DIV, frame counter after every step of generated programs).
-/
namespace GbVerif.Sys
open GbVerif

def timerOf (t : Bus.TimerRegs) : Timer.State := ⟨t.cycleCount, t.counter, t.modulo, t.enabledMask, t.clockMask, t.control⟩
def regsOfTimer (t : Timer.State) : Bus.TimerRegs :=
  { cycleCount := t.cycleCount, counter := t.counter, modulo := t.modulo, enabledMask := t.enabledMask,
    clockMask := t.timerClockMask, control := t.controlValue }

/-- `current_mode` (a `u8` that only ever holds 0..3) as the four-valued type of the LCD model -/
def modeOfNat : Nat → Lcd.Mode
  | 0 => .m0
  | 1 => .m1
  | 2 => .m2
  | _ => .m3

/-- the timing side of `VideoState` as the LCD model's state -/
def lcdOf (v : Bus.VideoRegs) : Lcd.State :=
  ⟨modeOfNat v.mode, v.dots, v.line, v.lyc, v.irqLyc, v.irqM2, v.irqM1, v.irqM0⟩

/-- how often `frames_completed += 1` runs in the next `n` iterations of the LCD loop: the iterations that enter VBlank
(the same branch ORs `InterruptFlag::vblank()` into the result, and nothing else sets that bit) -/
def vblanks : Nat → Lcd.State → Nat
  | 0, _ => 0
  | n+1, s => (if Lcd.hasVblank (Lcd.tick4 s).2 then 1 else 0) + vblanks n (Lcd.tick4 s).1

/-- `VideoState::run_clock_cycles(cycles)`: new registers and the interrupt flags returned -/
def videoRun (v : Bus.VideoRegs) (clocks : Nat) : Except Bus.Panic (Bus.VideoRegs × Nat) :=
  match Lcd.runClocks clocks (lcdOf v) with
  | none => .error (.overflow "video cycles_remaining")
  | some (l, f) =>
    .ok ({ v with mode := l.mode.toNat, dots := l.dots, line := l.line, frames := v.frames + vblanks (clocks / 4) (lcdOf v) }, f)

/-- `IO::run_clock_cycles(cycles)`: timer, LCD, joypad; the flags are ORed into IF -/
def ioRun (io : Bus.Io) (clocks : Nat) : Except Bus.Panic Bus.Io :=
  match Timer.runCycles (timerOf io.timer) clocks with
  | none => .error (.overflow "timer cycle_count")
  | some (t, tf) => do
    let (v, vf) ← videoRun io.video clocks
    let (jf, joy) := Joypad.takeIrq io.joy
    pure { io with timer := regsOfTimer t, video := v, joy := joy,
                   ifl := io.ifl ||| ((if tf then 4 else 0) ||| vf ||| (if jf then 0x10 else 0)) }

/-- the copy loop of `MemoryAreas::run_clock_cycles`: one byte, then the devices catch up with that machine cycle -/
def dmaLoop (s : Bus.State) (source off : Nat) : Nat → Except Bus.Panic (Bus.State × Nat)
  | 0 => .ok (s, off)
  | n+1 => do
    let s ← Bus.dmaCopyByte s source off
    let io ← ioRun s.io 4
    dmaLoop { s with io := io } source (off + 1) n

/-- `MemoryAreas::run_clock_cycles(cycles)` -/
def dev : Core.Dev := fun s clocks =>
  match s.dma with
  | none => do
    let io ← ioRun s.io clocks
    pure { s with io := io }
  | some (source, off) => do
    let n := min (0xa0 - off) (clocks / 4)
    let (s, off') ← dmaLoop s source off n
    let s := { s with dma := if off' < 0xa0 then some (source, off') else none }
    let io ← ioRun s.io (clocks - 4 * n)
    pure { s with io := io }

/-- what `Core::run_frame` polls: `VideoState::get_frames_completed` -/
def frames (c : Core.State) : Nat := c.bus.io.video.frames

end GbVerif.Sys
